/-
  Proofs/FrozenHistory.lean — C04 over operation sequences (the supply operations of Proofs/SupplyHistory.lean): while an
  account is frozen for a fungible token, no mint / burn / NFT create / add-quantity / NFT burn / re-freeze — by anyone,
  with any arguments — changes that account's balance of the token, and the account stays frozen; only wipe and unfreeze
  (system contract) do.
-/
import Proofs.SupplyHistory
import Proofs.Gates
namespace Esdt

/-- the account's fungible entry of `tok` carries the frozen flag -/
def FrozenAt (A : Accts) (a tok : Bytes) : Prop :=
  ∃ t, tokenOf (A.read a (esdtKeyPrefix ++ tok)) = some t ∧ frozenOf t.properties = true

theorem frozenAt_congr {A A' : Accts} {a tok : Bytes}
    (h : A'.read a (esdtKeyPrefix ++ tok) = A.read a (esdtKeyPrefix ++ tok)) (hf : FrozenAt A a tok) :
    balOf (A'.read a (esdtKeyPrefix ++ tok)) = balOf (A.read a (esdtKeyPrefix ++ tok)) ∧ FrozenAt A' a tok := by
  obtain ⟨t, ht, hfr⟩ := hf
  exact ⟨by rw [h], t, by rw [h]; exact ht, hfr⟩

/-- one supply operation other than wipe / unfreeze, not flagged return-after-error, on a state where `a` is frozen for
    `tok`: `a`'s balance of `tok` is as before and `a` is still frozen.  (NFT create writes a FRESH entry without looking at
    what its key held: the hypothesis `hnoalias` says that key is not the fungible key — token identifiers do not alias.) -/
theorem frozen_step (op : SupplyOp) (hop : op ≠ .wipe ∧ op ≠ .unfreeze) (env : Env) (c : Call) (A : Accts) (out : VMOutput)
    (ctx' : Ctx) (hI : SInv A) (hrsys : c.rcv ≠ systemAccountAddress)
    (h : op.run env c { accts := A } = .ok (out, ctx')) (a tok : Bytes) (hfz : FrozenAt A a tok)
    (hrae : c.rae = false) (hsc : a ≠ esdtSCAddress)
    (hnoalias : op = .create → ∀ tok' n, c.args[0]? = some tok' →
      nftKey (esdtKeyPrefix ++ tok') n ≠ esdtKeyPrefix ++ tok) :
    balOf (ctx'.accts.read a (esdtKeyPrefix ++ tok)) = balOf (A.read a (esdtKeyPrefix ++ tok)) ∧
      FrozenAt ctx'.accts a tok := by
  obtain ⟨tf, htf, hfr⟩ := hfz
  -- a fungible slot rewritten through the gate cannot be the frozen one
  have one : ∀ {tok' : Bytes} {t : Token} {v d : Int},
      OneWrite A ctx'.accts c.caller (esdtKeyPrefix ++ tok') t v d →
      GateOpen A c.caller (esdtKeyPrefix ++ tok') t c.rae →
      balOf (ctx'.accts.read a (esdtKeyPrefix ++ tok)) = balOf (A.read a (esdtKeyPrefix ++ tok)) ∧
        FrozenAt ctx'.accts a tok := by
    intro tok' t v d hw hg
    by_cases he : c.caller = a ∧ esdtKeyPrefix ++ tok' = esdtKeyPrefix ++ tok
    · exfalso
      obtain ⟨ha, hk⟩ := he
      have ht := hw.old
      rw [ha, hk, htf] at ht
      cases ht
      have := (hg hrae (ha ▸ hsc)).1
      rw [this] at hfr; cases hfr
    · exact frozenAt_congr (hw.others a _ he) ⟨tf, htf, hfr⟩
  -- an NFT slot rewritten through the gate cannot be the frozen one either (aliasing keys included)
  have nft : ∀ {tok' : Bytes} {n : Nat} {t : Token} {v v' : Int},
      NftWrite A ctx'.accts c.caller (esdtKeyPrefix ++ tok') n t v v' → n ≠ 0 →
      (∀ m, t.md = some m → m.nonce = 0 ∨ m.nonce = n) →
      GateOpen A c.caller (esdtKeyPrefix ++ tok') { t with value := some v' } c.rae →
      balOf (ctx'.accts.read a (esdtKeyPrefix ++ tok)) = balOf (A.read a (esdtKeyPrefix ++ tok)) ∧
        FrozenAt ctx'.accts a tok := by
    intro tok' n t v v' hw hn0 hnon hg
    have hnonce : mdNonce t = n := hw.ownNonce hI.mdpos hnon
    by_cases he : c.caller = a ∧ nftKey (esdtKeyPrefix ++ tok') n = esdtKeyPrefix ++ tok
    · exfalso
      obtain ⟨ha, hk⟩ := he
      have ht : tokenOf (A.read c.caller (nftKey (esdtKeyPrefix ++ tok') n)) = some t := by
        simp [tokenOf, hw.present, hw.old]
      rw [ha, hk, htf] at ht
      cases ht
      have := (hg hrae (ha ▸ hsc)).1
      rw [this] at hfr; cases hfr
    · apply frozenAt_congr _ ⟨tf, htf, hfr⟩
      rw [hw.written, hnonce, Accts.read_write, if_neg he]
  cases op with
  | wipe => exact absurd rfl hop.1
  | unfreeze => exact absurd rfl hop.2
  | mint =>
    obtain ⟨tok', _, t, v, _, _, hw, hg⟩ := (localMint_effect env c { accts := A }).elim h
    exact one hw hg
  | localBurn =>
    obtain ⟨tok', _, t, v, _, _, hw, hg⟩ := (localBurn_effect env c { accts := A }).elim h
    exact one hw hg
  | burn =>
    obtain ⟨tok', _, t, v, _, _, hw, hg⟩ := (esdtBurn_effect env c { accts := A }).elim h
    exact one hw hg
  | addQty =>
    obtain ⟨tok', nb, qb, t, v, h0, h1, _, hn0, hw, hg⟩ := (addQuantity_effect env c { accts := A }).elim h
    exact nft hw hn0 (fun m hm => (addQuantity_nonce env c { accts := A }).elim h tok' nb t m h0 h1 hw.old hm) hg
  | nftBurn =>
    obtain ⟨tok', nb, qb, t, v, h0, h1, _, hn0, _, hw, hg⟩ := (nftBurn_effect env c { accts := A }).elim h
    exact nft hw hn0 (fun m hm => (nftBurn_nonce env c { accts := A }).elim h tok' nb t m h0 h1 hw.old hm) hg
  | create =>
    obtain ⟨tok', qb, name, roy, hash, attrs, n, A1, h0, _, _, _, _, _, _, _, _, _, hA1, hw⟩ :=
      (nftCreate_effect env c { accts := A }).elim h
    simp only at hA1 hw
    apply frozenAt_congr _ ⟨tf, htf, hfr⟩
    have h1 : ¬ (c.caller = a ∧ nonceKeyPrefix ++ tok' = esdtKeyPrefix ++ tok) := fun hh =>
      not_tokKey_nonce tok' (hh.2 ▸ tokKey_esdt tok)
    have h2 : ¬ (c.caller = a ∧ nftKey (esdtKeyPrefix ++ tok') n = esdtKeyPrefix ++ tok) := fun hh =>
      hnoalias rfl tok' n h0 hh.2
    rw [hw, Accts.read_write, if_neg h1, hA1, Accts.read_write, if_neg h2]
  | freeze =>
    have hS' : Short ctx'.accts := (short_runFn .esdtFreeze env c nofun { accts := A } hI.short).elim h
    obtain ⟨tok', t, _, _, ht, _, hw⟩ := (toggleFreeze_effect .freeze (by decide) env c { accts := A }).elim h
    simp only at hw ht
    by_cases he : c.rcv = a ∧ esdtKeyPrefix ++ tok' = esdtKeyPrefix ++ tok
    · obtain ⟨ha, hk⟩ := he
      obtain ⟨⟨v, hv, _⟩, _⟩ := hI.canon.read (tokKey_esdt tok') hrsys ht
      have hl := hS' c.rcv (esdtKeyPrefix ++ tok')
      rw [hw, Accts.read_write, if_pos ⟨rfl, rfl⟩] at hl
      have hread : ctx'.accts.read a (esdtKeyPrefix ++ tok) =
          storedForm { t with properties := flagBytes (FreezeKind.freeze == FreezeKind.freeze) } := by
        rw [hw, ← ha, ← hk, Accts.read_write, if_pos ⟨rfl, rfl⟩]
      have hbs := balOf_storedForm_len { t with properties := flagBytes (FreezeKind.freeze == FreezeKind.freeze) } v hv
        ((tokenOf_num ht).withProps _) hl
      refine ⟨by rw [hread, hbs, ← ha, ← hk, balOf_old ht hv], ?_⟩
      -- the rewritten entry is not deleted (its flag bytes are not all zero) and reads back frozen
      have hne : ¬ (({ t with properties := flagBytes (FreezeKind.freeze == FreezeKind.freeze) } : Token).value = some 0 ∧
          allZero ({ t with properties := flagBytes (FreezeKind.freeze == FreezeKind.freeze) } : Token).properties = true) := by
        rintro ⟨_, hz⟩
        have : allZero (flagBytes (FreezeKind.freeze == FreezeKind.freeze)) = false := by decide
        rw [show ({ t with properties := flagBytes (FreezeKind.freeze == FreezeKind.freeze) } : Token).properties =
          flagBytes (FreezeKind.freeze == FreezeKind.freeze) from rfl, this] at hz
        cases hz
      have hsf : storedForm { t with properties := flagBytes (FreezeKind.freeze == FreezeKind.freeze) } =
          encToken { t with properties := flagBytes (FreezeKind.freeze == FreezeKind.freeze) } := by
        unfold storedForm; rw [if_neg hne]
      rw [hsf] at hl hread
      refine ⟨{ t with properties := flagBytes (FreezeKind.freeze == FreezeKind.freeze) }, ?_,
        (by show frozenOf (flagBytes (FreezeKind.freeze == FreezeKind.freeze)) = true; decide)⟩
      rw [hread, tokenOf, if_neg (encToken_ne_nil _), roundtrip_of_length _ ((tokenOf_num ht).withProps _) hl]
    · apply frozenAt_congr _ ⟨tf, htf, hfr⟩
      rw [hw, Accts.read_write, if_neg he]

end Esdt

namespace Esdt

/-- what is assumed of every operation of a history in which `a` stays frozen for `tok`: it is not a wipe or an unfreeze,
    is not flagged return-after-error, does not address the system account, and an NFT create does not alias the
    fungible key -/
def FStepOK (tok : Bytes) (s : SStep) : Prop :=
  (s.op ≠ .wipe ∧ s.op ≠ .unfreeze) ∧ s.c.rae = false ∧ s.c.caller ≠ systemAccountAddress ∧
  s.c.rcv ≠ systemAccountAddress ∧
  (s.op = .create → ∀ tok' n, s.c.args[0]? = some tok' → nftKey (esdtKeyPrefix ++ tok') n ≠ esdtKeyPrefix ++ tok)

theorem frozen_history_run (a tok : Bytes) (hsc : a ≠ esdtSCAddress) : ∀ (steps : List SStep) (A : Accts), SInv A →
    SStepsOK steps A → (∀ s ∈ steps, FStepOK tok s) → FrozenAt A a tok →
    balOf ((srun steps A).1.read a (esdtKeyPrefix ++ tok)) = balOf (A.read a (esdtKeyPrefix ++ tok)) ∧
      FrozenAt (srun steps A).1 a tok :=
  fun steps A hI hok hfs hf =>
    (srun_inv (Inv := fun A' => balOf (A'.read a (esdtKeyPrefix ++ tok)) = balOf (A.read a (esdtKeyPrefix ++ tok)) ∧
        FrozenAt A' a tok)
      (fun s A' out ctx' hI' ⟨hb, hf'⟩ ⟨hop, hrae, _, hrs, hna⟩ he => by
        obtain ⟨hb1, hf1⟩ := frozen_step s.op hop s.env s.c A' out ctx' hI' hrs he a tok hf' hrae hsc hna
        exact ⟨hb1.trans hb, hf1⟩)
      steps A hI ⟨rfl, hf⟩ hok hfs).2

end Esdt
