/-
  Proofs/TokFrame.lean — the functions that are NOT about balances leave every per-key sum of balances alone.
  `J A0 A` ("A still has the token ledger of A0"): one record per address, metadata nonces positive, and for every token key
  the shard's sum of balances is what it was in `A0`.  It is preserved by every primitive except a storage write under a
  token key; so ClaimDeveloperRewards, ChangeOwnerAddress, SetUserName, SaveKeyValue (protected keys refused), ESDTSetRole /
  ESDTUnSetRole (role key only), ESDTNFTCreateRoleTransfer (role and counter keys only) preserve it — whoever calls them
  with whatever arguments.  ESDTNFTAddURI / ESDTNFTUpdateAttributes rewrite an entry with its value kept (exact-effect
  lemmas), ESDTPause / ESDTUnPause write the flag pair into the system account (worth 0 as a balance).
  Used by the one world that mixes all 23 functions (Proofs/Unified.lean).
-/
import Proofs.Base
import Proofs.SupplyHistory
namespace Esdt

/-- replacing one account's record by one with the same storage does not move any sum of balances -/
theorem balAt_set_store (A : Accts) (hn : A.Nodup) (a : Bytes) (x : Acct) (hx : x.store = (A.get a).store) (k : Bytes) :
    balAt (A.set a x) k = balAt A k := by
  have h1 := balAt_split A hn a k
  have h2 := balAt_split (A.set a x) (Accts.set_nodup A hn a x) a k
  have hf : (A.set a x).filter (fun p => p.1 ≠ a) = A.filter (fun p => p.1 ≠ a) := by
    unfold Accts.set
    simp only [List.filter]
    have : decide (a ≠ a) = false := by simp
    rw [this, List.filter_filter]
    simp
  rw [hf, Accts.get_set_same, hx] at h2
  omega

theorem mdpos_set_store {A : Accts} (a : Bytes) (x : Acct) (hx : x.store = (A.get a).store) (hA : MdPos A) :
    MdPos (A.set a x) := by
  intro a2 k2 t m hk hne hdec hm
  rw [read_set_fields A a x hx] at hne hdec
  exact hA a2 k2 t m hk hne hdec hm

/-- `A` still has the token ledger of `A0` -/
def J (A0 A : Accts) : Prop := A.Nodup ∧ MdPos A ∧ ∀ k, TokKey k → balAt A k = balAt A0 k

theorem J.refl {A : Accts} (hn : A.Nodup) (hm : MdPos A) : J A A := ⟨hn, hm, fun _ _ => rfl⟩

theorem J.write {A0 A : Accts} (h : J A0 A) (a k v : Bytes) (hk : ¬ TokKey k) : J A0 (A.write a k v) := by
  obtain ⟨hn, hm, hb⟩ := h
  refine ⟨Accts.write_nodup A hn a k v, mdpos_write_nontok a k v hm hk, fun k2 hk2 => ?_⟩
  have hne : ¬ k = k2 := fun he => hk (by rw [he]; exact hk2)
  rw [balAt_write A hn, if_neg hne, hb k2 hk2]; omega

theorem J.set {A0 A : Accts} (h : J A0 A) (a : Bytes) (x : Acct) (hx : x.store = (A.get a).store) : J A0 (A.set a x) := by
  obtain ⟨hn, hm, hb⟩ := h
  exact ⟨Accts.set_nodup A hn a x, mdpos_set_store a x hx hm, fun k hk => by rw [balAt_set_store A hn a x hx, hb k hk]⟩

/-- `I` survives every storage write under a key that is not a token key, and every change of account-level fields -/
structure NTC (I : Accts → Prop) : Prop where
  write : ∀ A a k v, ¬ TokKey k → I A → I (A.write a k v)
  set : ∀ A a x, x.store = (A.get a).store → I A → I (A.set a x)

theorem ntc_J (A0 : Accts) : NTC (J A0) := ⟨fun _ a k v hk h => h.write a k v hk, fun _ a x hx h => h.set a x hx⟩

section
variable {I : Accts → Prop}

theorem NTC.writeKey (hI : NTC I) (a k v : Bytes) (hk : ¬ TokKey k) : Pres I (writeKey a k v) := by
  intro c hs
  apply Post.mono (spec_writeKey a k v c)
  intro _ c' he
  rw [he]; exact hI.write _ a k v hk hs
end

section
variable {I : Accts → Prop} (hI : NTC I)
include hI

theorem NTC.esdtRoles (s : Bool) (env : Env) (c : Call) : Pres I (esdtRoles s env c) :=
  comp_esdtRoles Pres.comp env c s (fun tok _ r => comp_saveRoles Pres.comp r (fun v _ => NTC.writeKey hI _ _ v (not_tokKey_role tok)))

/-- SaveKeyValue: a key that passes the guard is not a token key -/
theorem NTC.skvLoop (env : Env) (c : Call) : ∀ (n : Nat) (l : List Bytes) (g : Nat), l.length ≤ n →
    Pres I (skvLoop env c l g) :=
  fun _ l g _ => comp_skvLoop Pres.comp env c l g (fun k v _ _ hal =>
    NTC.writeKey hI _ k v (fun hk => by rw [tokKey_not_allowed k hk] at hal; cases hal))

end

/-- the seven functions that never write under a token key -/
inductive PlainFn : FnId → Prop
  | claim : PlainFn .claimDeveloperRewards
  | owner : PlainFn .changeOwnerAddress
  | name : PlainFn .setUserName
  | skv : PlainFn .saveKeyValue
  | setRole : PlainFn .setRole
  | unSetRole : PlainFn .unSetRole
  | handOver : PlainFn .nftCreateRoleTransfer

theorem PlainFn.writesTokens {f : FnId} (hf : PlainFn f) : f.writesTokens = false := by cases hf <;> rfl

/-- a successful call of one of them preserves every invariant that survives non-token writes -/
theorem plain_pres {I : Accts → Prop} (hI : NTC I) {f : FnId} (hf : PlainFn f) (env : Env) (c : Call) (ctx ctx' : Ctx)
    (out : VMOutput) (h0 : I ctx.accts) (h : exec env f c ctx = .ok (out, ctx')) : I ctx'.accts :=
  exec_pres (.of_store (fun A a k v hw _ => hI.write A a k v (fun hk => by
    have := wrKey_tok hw.2 hk
    rw [hf.writesTokens] at this; cases this)) hI.set) h0 h

/-- a successful call of one of them leaves every per-key sum of balances (and the metadata-nonce invariant) alone -/
theorem plain_step {f : FnId} (hf : PlainFn f) (env : Env) (c : Call) (A : Accts) (out : VMOutput) (ctx' : Ctx)
    (hn : A.Nodup) (hm : MdPos A) (h : exec env f c { accts := A } = .ok (out, ctx')) :
    MdPos ctx'.accts ∧ ∀ k, TokKey k → balAt ctx'.accts k = balAt A k := by
  have key : J A ctx'.accts := plain_pres (ntc_J A) hf env c { accts := A } ctx' out (J.refl hn hm) h
  exact ⟨key.2.1, key.2.2⟩

/-! ### ESDTNFTAddURI / ESDTNFTUpdateAttributes: the entry is rewritten with its value kept -/

theorem addURI_nonce (env : Env) (c : Call) (ctx : Ctx) :
    Post (esdtNFTAddURI env c) ctx (fun _ _ => ∀ tok nb t m, c.args[0]? = some tok → c.args[1]? = some nb →
      decToken (ctx.accts.read c.caller (nftKey (esdtKeyPrefix ++ tok) (u64 (beNat nb)))) = some t → t.md = some m →
      m.nonce = 0 ∨ m.nonce = u64 (beNat nb)) := by
  apply (addURI_spec env c ctx).mono
  rintro _ _ ⟨_, _, _, _, h0, h1, _, _, held, _⟩ tok nb t m h0' h1' hd hm
  cases h0.symm.trans h0'; cases h1.symm.trans h1'; cases held.old.symm.trans hd
  exact held.nonce m hm

theorem updateAttributes_nonce (env : Env) (c : Call) (ctx : Ctx) :
    Post (esdtNFTUpdateAttributes env c) ctx (fun _ _ => ∀ tok nb t m, c.args[0]? = some tok → c.args[1]? = some nb →
      decToken (ctx.accts.read c.caller (nftKey (esdtKeyPrefix ++ tok) (u64 (beNat nb)))) = some t → t.md = some m →
      m.nonce = 0 ∨ m.nonce = u64 (beNat nb)) := by
  apply (updateAttributes_spec env c ctx).mono
  rintro _ _ ⟨_, _, _, _, _, h0, h1, _, _, _, held, _⟩ tok nb t m h0' h1' hd hm
  cases h0.symm.trans h0'; cases h1.symm.trans h1'; cases held.old.symm.trans hd
  exact held.nonce m hm

/-- a metadata rewrite keeps the per-key sums and the metadata-nonce invariant -/
theorem metaWrite_step {A A' : Accts} {a tok : Bytes} {n : Nat} {t : Token} {m m' : MetaData}
    (hw : MetaWrite A A' a (esdtKeyPrefix ++ tok) n t m m') (hn : A.Nodup) (hC : Canon A) (hM : MdPos A) (hS' : Short A')
    (hsys : a ≠ systemAccountAddress) (hnon : m.nonce = 0 ∨ m.nonce = n)
    (hroy : m'.royalties = m.royalties) :
    MdPos A' ∧ ∀ k, balAt A' k = balAt A k := by
  have hpos : m.nonce ≠ 0 := hM _ _ t m (tokKey_nft _ _) hw.present hw.old hw.hasMeta
  have hmn : m.nonce = n := by
    rcases hnon with h | h
    · exact absurd h hpos
    · exact h
  have hnum : NumOK t := decToken_num _ _ hw.old
  have hnum' : NumOK { t with md := some m' } := by
    refine ⟨hnum.type, fun m1 hm1 => ?_⟩
    have : m1 = m' := by simpa using hm1.symm
    subst this
    have := hnum.md m hw.hasMeta
    rw [hw.sameNonce, hroy]; exact this
  have hwr : A' = A.write a (nftKey (esdtKeyPrefix ++ tok) n) (nftStoredForm { t with md := some m' }) := by
    rw [hw.written, hmn]
  have hl := hS' a (nftKey (esdtKeyPrefix ++ tok) n)
  rw [hwr, Accts.read_write, if_pos ⟨rfl, rfl⟩] at hl
  refine ⟨?_, fun k => ?_⟩
  · rw [hwr]
    exact mdpos_write_nft _ _ _ hM hnum' hl (fun md hmd => by
      have : md = m' := by simpa using hmd.symm
      subst this
      rw [hw.sameNonce]; exact hpos)
  · rw [hwr, balAt_write A hn]
    split
    · rename_i hk
      rcases hC a _ (tokKey_nft tok n) hsys with he | ⟨t1, hd1, hwf⟩
      · exact absurd he hw.present
      · rw [hw.old] at hd1; cases hd1
        obtain ⟨v, hv, hvv⟩ := hwf.value
        have h0 : 0 ≤ v := by rcases hvv with h | ⟨h, _⟩ <;> omega
        rw [balOf_nftStoredForm_len _ v (by simpa using hv) h0 hnum' hl, balOf_dec hw.present hw.old hv]
        omega
    · omega

/-! ### ESDTPause / ESDTUnPause: the flag pair goes into the system account -/

theorem pause_effect (p : Bool) (env : Env) (c : Call) (ctx : Ctx) :
    Post (esdtPause p env c) ctx (fun _ ctx' => ∃ tok, c.args[0]? = some tok ∧
      ctx'.accts = ctx.accts.write systemAccountAddress (esdtKeyPrefix ++ tok) (flagBytes p)) := by
  unfold esdtPause loadAcct saveAcct
  xsteps
  apply Post.mono (RO.tick _ ctx)
  intro _ c1 h1
  xsteps
  apply Post.mono (spec_writeKey _ _ _ c1)
  intro _ c2 h2
  xsteps
  apply Post.mono (RO.tick _ c2)
  intro _ c3 h3
  apply Post.pure
  exact ⟨_, ‹c.args[0]? = some _›, by rw [h3, h2, h1]⟩

theorem balOf_flagBytes (p : Bool) : balOf (flagBytes p) = 0 := by cases p <;> decide
theorem decToken_flagBytes (p : Bool) : decToken (flagBytes p) = none := by cases p <;> decide

/-- pausing / un-pausing replaces whatever the system account stored under the token's key by the flag pair: as a
    balance that is worth 0 — the per-key sum of the shard falls by what the system account's slot was worth before
    (nothing, unless somebody had sent tokens to the system account itself) -/
theorem pause_step (p : Bool) (env : Env) (c : Call) (A : Accts) (out : VMOutput) (ctx' : Ctx)
    (hn : A.Nodup) (hM : MdPos A) (h : esdtPause p env c { accts := A } = .ok (out, ctx')) :
    ∃ tok, c.args[0]? = some tok ∧ MdPos ctx'.accts ∧
      ∀ k, balAt ctx'.accts k = balAt A k -
        (if esdtKeyPrefix ++ tok = k then balOf (A.read systemAccountAddress k) else 0) := by
  obtain ⟨tok, h0, hw⟩ := (pause_effect p env c { accts := A }).elim h
  simp only at hw
  refine ⟨tok, h0, ?_, fun k => ?_⟩
  · rw [hw]
    intro a2 k2 t m hk2 hne hdec hm
    rw [Accts.read_write] at hne hdec
    split at hne
    · rename_i he
      rw [if_pos he, decToken_flagBytes] at hdec
      cases hdec
    · rename_i he
      rw [if_neg he] at hdec
      exact hM a2 k2 t m hk2 hne hdec hm
  · rw [hw, balAt_write A hn, balOf_flagBytes]
    split
    · rename_i hk; subst hk; omega
    · omega

end Esdt
