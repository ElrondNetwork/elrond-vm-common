/-
  Proofs/Writes.lean — where each function writes, as ONE theorem (`writes_runFn`): the account table after a successful
  call is reached from the one before by storage writes `(a, k, v)` inside the function's write set — `a` among the
  caller, the receiver, an address argument (the system account for pause only); `k` a protocol key of a token named in
  the arguments (for SaveKeyValue: a listed, unprotected key); `v` shorter than 2^63 bytes or itself an argument — and by
  changes of account-level fields.  "Reached by" is said through the invariants that survive such writes (`WriteClosed`),
  so the theorem is at once the footprint of C05 (`Frame`), one record per address, short stored values, "role lists /
  counters / pause flags change only through …", and the preservation of every invariant that ignores non-token writes.
-/
import Proofs.Pres
import Proofs.Codec
namespace Esdt

/-- `I` survives every storage write of a value `V` allows into a slot of the footprint `F`, and every change of an
    account-level field in `F` (the storage of that record, and its other fields, staying as they are) -/
structure WriteClosed (F : Bytes → Slot → Prop) (V : Bytes → Prop) (I : Accts → Prop) : Prop where
  write : ∀ A a k v, F a (.key k) → V v → I A → I (A.write a k v)
  field : ∀ A a s x, F a s → x.store = (A.get a).store → (∀ s', s' ≠ s → SlotSame (A.get a) x s') → I A → I (A.set a x)

/-- every change `m` makes is a storage write of a value in `V` into `F`, or a change of an account-level field in `F` -/
def Writes (F : Bytes → Slot → Prop) (V : Bytes → Prop) {α} (m : M α) : Prop := ∀ I, WriteClosed F V I → Pres I m

section
variable {F : Bytes → Slot → Prop} {V : Bytes → Prop} {I : Accts → Prop}

/-- an invariant that does not look at account-level fields -/
theorem WriteClosed.of_store (hw : ∀ A a k v, F a (.key k) → V v → I A → I (A.write a k v))
    (hs : ∀ A a x, x.store = (A.get a).store → I A → I (A.set a x)) : WriteClosed F V I :=
  ⟨hw, fun A a _ x _ hx _ => hs A a x hx⟩

theorem WriteClosed.writeKey (h : WriteClosed F V I) {a k v : Bytes} (hf : F a (.key k)) (hv : V v) :
    Pres I (writeKey a k v) := by
  intro c hs
  apply Post.mono (spec_writeKey a k v c)
  intro _ c' he
  rw [he]; exact h.write _ a k v hf hv hs

/-- the four account-field setters are `g`-updates of one record -/
theorem WriteClosed.setField (h : WriteClosed F V I) (a : Bytes) (s : Slot) (g : Acct → Acct) (hf : F a s)
    (hg : ∀ x, (g x).store = x.store ∧ ∀ s', s' ≠ s → SlotSame x (g x) s') :
    Pres I (fun c => Res.ok ((), { c with accts := c.accts.set a (g (c.accts.get a)) }) : M Unit) := by
  intro c hs
  apply Post.of_forall
  intro _ c' he
  cases he
  exact h.field _ a s _ hf (hg _).1 (hg _).2 hs

theorem WriteClosed.setOwner (h : WriteClosed F V I) {a : Bytes} (v : Bytes) (hf : F a .owner) : Pres I (setOwner a v) :=
  h.setField a .owner (fun x => { x with owner := v }) hf
    (fun _ => ⟨rfl, fun s hs => by cases s <;> first | rfl | exact absurd rfl hs⟩)
theorem WriteClosed.setName (h : WriteClosed F V I) {a : Bytes} (v : Bytes) (hf : F a .name) : Pres I (setName a v) :=
  h.setField a .name (fun x => { x with name := v }) hf
    (fun _ => ⟨rfl, fun s hs => by cases s <;> first | rfl | exact absurd rfl hs⟩)
theorem WriteClosed.setReward (h : WriteClosed F V I) {a : Bytes} (v : Int) (hf : F a .reward) : Pres I (setReward a v) :=
  h.setField a .reward (fun x => { x with reward := v }) hf
    (fun _ => ⟨rfl, fun s hs => by cases s <;> first | rfl | exact absurd rfl hs⟩)
theorem WriteClosed.setBalance (h : WriteClosed F V I) {a : Bytes} (v : Int) (hf : F a .balance) :
    Pres I (setBalance a v) :=
  h.setField a .balance (fun x => { x with balance := v }) hf
    (fun _ => ⟨rfl, fun s hs => by cases s <;> first | rfl | exact absurd rfl hs⟩)

end

/-- a value the functions store: a marshalled token / role list, a flag pair, a counter, nothing — or, for SaveKeyValue,
    one of the call's own arguments -/
def StoredVal (f : FnId) (c : Call) (v : Bytes) : Prop := v.length < two63 ∨ (f = .saveKeyValue ∧ v ∈ c.args)

/-- whose storage `f` writes -/
def wrAddr (f : FnId) (c : Call) (a : Bytes) : Prop :=
  match f with
  | .claimDeveloperRewards | .changeOwnerAddress | .setUserName => False
  | .esdtPause | .esdtUnPause => a = systemAccountAddress
  | .saveKeyValue | .esdtBurn | .localMint | .localBurn | .nftCreate | .nftAddQuantity | .nftBurn | .nftAddURI
  | .nftUpdateAttributes => a = c.caller
  | .esdtFreeze | .esdtUnFreeze | .esdtWipe | .setRole | .unSetRole => a = c.rcv
  | .esdtTransfer => a = c.caller ∨ a = c.rcv
  | .nftCreateRoleTransfer => a = c.rcv ∨ a ∈ c.args
  | .nftTransfer | .multiTransfer => a = c.caller ∨ a = c.rcv ∨ a ∈ c.args

/-- which of the three protocol namespaces `f` writes into: token entries (balances, NFTs, the pause flag), role lists,
    nonce counters -/
def FnId.writesTokens : FnId → Bool
  | .claimDeveloperRewards | .changeOwnerAddress | .setUserName | .saveKeyValue | .setRole | .unSetRole
  | .nftCreateRoleTransfer => false
  | _ => true
def FnId.writesRoles : FnId → Bool
  | .setRole | .unSetRole | .nftCreateRoleTransfer => true
  | _ => false
def FnId.writesCounter : FnId → Bool
  | .nftCreate | .nftCreateRoleTransfer => true
  | _ => false

/-- under which keys: a listed, unprotected key (SaveKeyValue), or a protocol key of a token named in the arguments -/
def wrKey (f : FnId) (c : Call) (k : Bytes) : Prop :=
  (f = .saveKeyValue ∧ k ∈ c.args ∧ isAllowedToSaveUnderKey k = true) ∨
  ∃ t ∈ c.args, (f.writesTokens = true ∧ ∃ s, k = esdtKeyPrefix ++ t ++ s) ∨
    (f.writesRoles = true ∧ k = roleKeyPrefix ++ t) ∨ (f.writesCounter = true ∧ k = nonceKeyPrefix ++ t)

/-- the write set of `f` on call `c`: storage slots, and the account-level fields of the three account functions -/
def wrSet (f : FnId) (c : Call) (a : Bytes) : Slot → Prop
  | .key k => wrAddr f c a ∧ wrKey f c k
  | s => acctFootprint f c a s

theorem leBytes_length_le : ∀ (k n : Nat), n < 256 ^ k → (leBytes n).length ≤ k := by
  intro k
  induction k with
  | zero => intro n h; have : n = 0 := by simpa using h
            subst this; rw [leBytes_zero]; simp
  | succ k ih =>
    intro n h
    by_cases hn : n = 0
    · subst hn; rw [leBytes_zero]; simp
    · rw [leBytes_pos n hn]
      simp only [List.length_cons]
      have : n / 256 < 256 ^ k := by
        rw [Nat.div_lt_iff_lt_mul (by decide)]
        rw [Nat.pow_succ] at h; exact h
      have := ih _ this
      omega

theorem beBytes_length_le8 (n : Nat) (h : n < two64) : (beBytes n).length ≤ 8 := by
  have := leBytes_length_le 8 n (by simpa [two64] using h)
  simpa [beBytes] using this

theorem flagBytes_short (p : Bool) : (flagBytes p).length < two63 := by cases p <;> decide

theorem writes_runFn (f : FnId) (env : Env) (c : Call) :
    Writes (wrSet f c) (StoredVal f c) (runFn f env c) := by
  intro I hI
  have mem : ∀ {i : Nat} {t : Bytes}, c.args[i]? = some t → t ∈ c.args := List.mem_of_getElem?
  -- a short value under the fungible key / an NFT key / the role key / the counter key of a token
  have fung : ∀ {a tok : Bytes} {i : Nat}, wrAddr f c a → f.writesTokens = true → c.args[i]? = some tok →
      ∀ v, v.length < two63 → Pres I (writeKey a (esdtKeyPrefix ++ tok) v) :=
    fun ha hf h0 v hv => hI.writeKey ⟨ha, Or.inr ⟨_, mem h0, Or.inl ⟨hf, [], by simp⟩⟩⟩ (Or.inl hv)
  have nft : ∀ {a tok : Bytes} {i : Nat}, wrAddr f c a → f.writesTokens = true → c.args[i]? = some tok → ∀ n v,
      v.length < two63 → Pres I (writeKey a (nftKey (esdtKeyPrefix ++ tok) n) v) :=
    fun ha hf h0 n v hv => hI.writeKey ⟨ha, Or.inr ⟨_, mem h0, Or.inl ⟨hf, beBytes n, rfl⟩⟩⟩ (Or.inl hv)
  have role : ∀ {a tok : Bytes} {i : Nat}, wrAddr f c a → f.writesRoles = true → c.args[i]? = some tok →
      ∀ v, v.length < two63 → Pres I (writeKey a (roleKeyPrefix ++ tok) v) :=
    fun ha hf h0 v hv => hI.writeKey ⟨ha, Or.inr ⟨_, mem h0, Or.inr (Or.inl ⟨hf, rfl⟩)⟩⟩ (Or.inl hv)
  have ctr : ∀ {a tok : Bytes} {i : Nat}, wrAddr f c a → f.writesCounter = true → c.args[i]? = some tok →
      ∀ n, n < two64 → Pres I (saveLatestNonce a tok n) :=
    fun ha hf h0 n hn => hI.writeKey ⟨ha, Or.inr ⟨_, mem h0, Or.inr (Or.inr ⟨hf, rfl⟩)⟩⟩
      (Or.inl (by have := beBytes_length_le8 n hn; simp only [two63]; omega))
  cases f <;> simp only [runFn]
  · exact comp_claimDeveloperRewards Pres.comp env c (hI.setReward _ ⟨rfl, rfl⟩) (fun _ => hI.setBalance _ ⟨rfl, rfl⟩)
  · exact comp_changeOwnerAddress Pres.comp env c (fun _ => hI.setOwner _ ⟨rfl, rfl⟩)
  · exact comp_setUserName Pres.comp env c (fun _ => hI.setName _ ⟨rfl, rfl⟩)
  · exact comp_saveKeyValue Pres.comp env c (fun k v hk hv hal => hI.writeKey ⟨rfl, Or.inl ⟨rfl, hk, hal⟩⟩ (Or.inr ⟨rfl, hv⟩))
  · exact comp_esdtPause Pres.comp env c _ (fun tok h0 => fung rfl rfl h0 _ (flagBytes_short _))
  · exact comp_esdtPause Pres.comp env c _ (fun tok h0 => fung rfl rfl h0 _ (flagBytes_short _))
  · exact comp_esdtTransfer Pres.comp env c (fun tok h0 a d ha => comp_addToESDTBalance Pres.comp d _ (fung ha rfl h0))
  · exact comp_esdtBurn Pres.comp env c (fun tok h0 d => comp_addToESDTBalance Pres.comp d _ (fung rfl rfl h0))
  · exact comp_esdtFreezeWipe Pres.comp env c _ (fun tok h0 => fung rfl rfl h0 [] (by decide))
      (fun tok h0 t => comp_saveESDTData Pres.comp t (fung rfl rfl h0))
  · exact comp_esdtFreezeWipe Pres.comp env c _ (fun tok h0 => fung rfl rfl h0 [] (by decide))
      (fun tok h0 t => comp_saveESDTData Pres.comp t (fung rfl rfl h0))
  · exact comp_esdtFreezeWipe Pres.comp env c _ (fun tok h0 => fung rfl rfl h0 [] (by decide))
      (fun tok h0 t => comp_saveESDTData Pres.comp t (fung rfl rfl h0))
  · exact comp_esdtRoles Pres.comp env c _ (fun tok h0 r => comp_saveRoles Pres.comp r (role rfl rfl h0))
  · exact comp_esdtRoles Pres.comp env c _ (fun tok h0 r => comp_saveRoles Pres.comp r (role rfl rfl h0))
  · exact comp_esdtLocalBurn Pres.comp env c (fun tok h0 d => comp_addToESDTBalance Pres.comp d _ (fung rfl rfl h0))
  · exact comp_esdtLocalMint Pres.comp env c (fun tok h0 d => comp_addToESDTBalance Pres.comp d _ (fung rfl rfl h0))
  · exact comp_esdtNFTAddQuantity Pres.comp env c (fun tok h0 t => comp_saveNFT Pres.comp t _ (nft rfl rfl h0))
  · exact comp_esdtNFTBurn Pres.comp env c (fun tok h0 t => comp_saveNFT Pres.comp t _ (nft rfl rfl h0))
  · exact comp_esdtNFTCreate Pres.comp env c (fun tok h0 t => comp_saveNFT Pres.comp t _ (nft rfl rfl h0)) (fun tok h0 => ctr rfl rfl h0)
  · exact comp_esdtNFTTransfer Pres.comp env c (fun _ tok _ h0 _ _ t => comp_saveNFT Pres.comp t _ (nft (Or.inl rfl) rfl h0))
      (fun _ tok _ dst h0 _ _ h3 t mv => comp_addNFTToDestination Pres.comp env t mv _ (nft (Or.inr (Or.inr (mem h3))) rfl h0))
      (fun _ tok _ t h0 _ _ mv => comp_addNFTToDestination Pres.comp env t mv _ (nft (Or.inr (Or.inl rfl)) rfl h0))
  · have addr : ∀ {a : Bytes}, a = c.rcv ∨ c.args[1]? = some a → a = c.rcv ∨ a ∈ c.args := fun h => h.imp id mem
    exact comp_esdtNFTCreateRoleTransfer Pres.comp env c (fun tok a h0 ha => ctr (addr ha) rfl h0)
      (fun tok h0 r => comp_saveRoles Pres.comp r (role (Or.inl rfl) rfl h0))
      (fun tok a h0 ha => comp_addCreateRole Pres.comp (role (addr ha) rfl h0))
  · exact comp_esdtNFTUpdateAttributes Pres.comp env c (fun tok h0 t => comp_saveNFT Pres.comp t _ (nft rfl rfl h0))
  · exact comp_esdtNFTAddURI Pres.comp env c (fun tok h0 t => comp_saveNFT Pres.comp t _ (nft rfl rfl h0))
  · exact comp_multiTransfer Pres.comp env c
      (fun _ dst hd i tok nb qb l v h0 _ _ => comp_transferOne Pres.comp env c l dst tok _ _ v
        (fun t => comp_saveNFT Pres.comp t _ (nft (Or.inl rfl) rfl h0))
        (fun t => comp_addNFTToDestination Pres.comp env t v _ (nft (Or.inr (Or.inr (mem hd))) rfl h0)))
      (fun _ i tok _ t h0 _ _ mv => comp_addNFTToDestination Pres.comp env t mv _ (nft (Or.inr (Or.inl rfl)) rfl h0))
      (fun _ i tok h0 d => comp_addToESDTBalance Pres.comp d _ (fung (Or.inr (Or.inl rfl)) rfl h0))

/-! ### what follows for a call -/

/-- a successful call preserves whatever survives the writes of its write set -/
theorem exec_pres {f : FnId} {env : Env} {c : Call} {ctx ctx' : Ctx} {out : VMOutput} {I : Accts → Prop}
    (hI : WriteClosed (wrSet f c) (StoredVal f c) I) (h0 : I ctx.accts) (h : exec env f c ctx = .ok (out, ctx')) :
    I ctx'.accts := (writes_runFn f env c I hI ctx h0).elim h

theorem Frame.writeClosed (F : Bytes → Slot → Prop) (V : Bytes → Prop) (A0 : Accts) : WriteClosed F V (Frame F A0) :=
  ⟨fun _ _ _ v hF _ h0 => h0.write v hF, fun _ _ _ _ hF _ hs h0 => h0.set hF hs⟩

/-- the footprint of a call: nothing outside its write set changes -/
theorem exec_frame {f : FnId} {env : Env} {c : Call} {ctx ctx' : Ctx} {out : VMOutput}
    (h : exec env f c ctx = .ok (out, ctx')) : Frame (wrSet f c) ctx.accts ctx'.accts :=
  exec_pres (Frame.writeClosed _ _ _) (Frame.refl _ _) h

theorem exec_read_eq {f : FnId} {env : Env} {c : Call} {ctx ctx' : Ctx} {out : VMOutput}
    (h : exec env f c ctx = .ok (out, ctx')) {a k : Bytes} (hn : ¬ (wrAddr f c a ∧ wrKey f c k)) :
    ctx'.accts.read a k = ctx.accts.read a k := exec_frame h a (.key k) hn

/-! ### the three protocol namespaces, and which functions write into which -/

def TokKey (k : Bytes) : Prop := ∃ s, k = esdtKeyPrefix ++ s

theorem not_tokKey_role (tok : Bytes) : ¬ TokKey (roleKeyPrefix ++ tok) := by
  rintro ⟨s, he⟩
  have := congrArg (List.take 7) he
  simp [esdtKeyPrefix, roleKeyPrefix, ascii] at this
theorem not_tokKey_nonce (tok : Bytes) : ¬ TokKey (nonceKeyPrefix ++ tok) := by
  rintro ⟨s, he⟩
  have := congrArg (List.take 7) he
  simp [esdtKeyPrefix, nonceKeyPrefix, ascii] at this
theorem role_ne_nonce (t t' : Bytes) : roleKeyPrefix ++ t ≠ nonceKeyPrefix ++ t' := by
  intro he
  have := congrArg (List.take 7) he
  simp [roleKeyPrefix, nonceKeyPrefix, ascii] at this
theorem tokKey_not_allowed (k : Bytes) (hk : TokKey k) : isAllowedToSaveUnderKey k = false := by
  obtain ⟨s, rfl⟩ := hk
  simp [isAllowedToSaveUnderKey, protectedPrefix, esdtKeyPrefix, ascii]
theorem role_not_allowed (tok : Bytes) : isAllowedToSaveUnderKey (roleKeyPrefix ++ tok) = false := by
  simp [isAllowedToSaveUnderKey, protectedPrefix, roleKeyPrefix, ascii]
theorem nonce_not_allowed (tok : Bytes) : isAllowedToSaveUnderKey (nonceKeyPrefix ++ tok) = false := by
  simp [isAllowedToSaveUnderKey, protectedPrefix, nonceKeyPrefix, ascii]

theorem tokKey_esdt_app (t s : Bytes) : TokKey (esdtKeyPrefix ++ t ++ s) := ⟨t ++ s, List.append_assoc _ _ _⟩

/-- whoever `f` writes to is the caller, the receiver or an address argument — or, for pause / un-pause, the system
    account -/
theorem wrAddr_cases {f : FnId} {c : Call} {a : Bytes} (h : wrAddr f c a) :
    a = c.caller ∨ a = c.rcv ∨ a ∈ c.args ∨ (a = systemAccountAddress ∧ (f = .esdtPause ∨ f = .esdtUnPause)) := by
  cases f <;> first
    | exact h.elim
    | exact Or.inr (Or.inr (Or.inr ⟨h, Or.inl rfl⟩))
    | exact Or.inr (Or.inr (Or.inr ⟨h, Or.inr rfl⟩))
    | exact Or.inl h
    | exact Or.inr (Or.inl h)
    | exact h.elim Or.inl (fun h => Or.inr (Or.inl h))
    | exact h.elim (fun h => Or.inr (Or.inl h)) (fun h => Or.inr (Or.inr (Or.inl h)))
    | exact h.imp_right (Or.imp_right Or.inl)

theorem wrAddr_addrOK {f : FnId} {c : Call} {a : Bytes} (h : wrAddr f c a) : addrOK c a := by
  rcases wrAddr_cases h with h | h | h | ⟨h, _⟩
  · exact Or.inl h
  · exact Or.inr (Or.inl h)
  · exact Or.inr (Or.inr (Or.inr h))
  · exact Or.inr (Or.inr (Or.inl h))

/-- the write set in the coarser terms of `tokenFootprint` -/
theorem wrKey_protoKey {f : FnId} {c : Call} {k : Bytes} (h : wrKey f c k) (hf : f ≠ .saveKeyValue) {r n : Bool}
    (hr : f.writesRoles = true → r = true) (hn : f.writesCounter = true → n = true) : protoKey r n c k := by
  rcases h with ⟨h, _⟩ | ⟨t, ht, h⟩
  · exact absurd h hf
  · exact ⟨t, ht, h.imp And.right (Or.imp (And.imp_left hr) (And.imp_left hn))⟩

/-- role lists are written by set-role, unset-role and the hand-over only, and only for a token they name -/
theorem wrKey_role {f : FnId} {c : Call} {tok : Bytes} (h : wrKey f c (roleKeyPrefix ++ tok)) :
    f.writesRoles = true ∧ tok ∈ c.args := by
  rcases h with ⟨_, _, hal⟩ | ⟨t, ht, ⟨_, s, hs⟩ | ⟨hf, hk⟩ | ⟨_, hk⟩⟩
  · rw [role_not_allowed] at hal; cases hal
  · exact absurd (hs ▸ tokKey_esdt_app t s) (not_tokKey_role tok)
  · exact ⟨hf, List.append_cancel_left hk ▸ ht⟩
  · exact absurd hk (role_ne_nonce _ _)

/-- nonce counters: by create and the hand-over only -/
theorem wrKey_nonce {f : FnId} {c : Call} {tok : Bytes} (h : wrKey f c (nonceKeyPrefix ++ tok)) :
    f.writesCounter = true ∧ tok ∈ c.args := by
  rcases h with ⟨_, _, hal⟩ | ⟨t, ht, ⟨_, s, hs⟩ | ⟨_, hk⟩ | ⟨hf, hk⟩⟩
  · rw [nonce_not_allowed] at hal; cases hal
  · exact absurd (hs ▸ tokKey_esdt_app t s) (not_tokKey_nonce tok)
  · exact absurd hk.symm (role_ne_nonce _ _)
  · exact ⟨hf, List.append_cancel_left hk ▸ ht⟩

/-- token entries: by the token functions only -/
theorem wrKey_tok {f : FnId} {c : Call} {k : Bytes} (h : wrKey f c k) (hk : TokKey k) : f.writesTokens = true := by
  rcases h with ⟨_, _, hal⟩ | ⟨t, _, ⟨hf, _⟩ | ⟨_, rfl⟩ | ⟨_, rfl⟩⟩
  · rw [tokKey_not_allowed k hk] at hal; cases hal
  · exact hf
  · exact absurd hk (not_tokKey_role t)
  · exact absurd hk (not_tokKey_nonce t)

/-- a role list can only change through set-role / unset-role / hand-over: every other function leaves every role key
    of every account untouched, whoever calls it -/
theorem roles_only_through (f : FnId) (hf : f ≠ .setRole ∧ f ≠ .unSetRole ∧ f ≠ .nftCreateRoleTransfer)
    (env : Env) (c : Call) (ctx ctx' : Ctx) (out : VMOutput) (h : exec env f c ctx = .ok (out, ctx')) (a tok : Bytes) :
    ctx'.accts.read a (roleKeyPrefix ++ tok) = ctx.accts.read a (roleKeyPrefix ++ tok) :=
  exec_read_eq h (fun hw => by
    have := (wrKey_role hw.2).1
    cases f <;> first | exact hf.1 rfl | exact hf.2.1 rfl | exact hf.2.2 rfl | cases this)

/-- counters change only through the holder's own creates and through hand-overs: every other function leaves every
    nonce counter of every account untouched -/
theorem counters_only_through (f : FnId) (hf : f ≠ .nftCreate ∧ f ≠ .nftCreateRoleTransfer)
    (env : Env) (c : Call) (ctx ctx' : Ctx) (out : VMOutput) (h : exec env f c ctx = .ok (out, ctx')) (a tok : Bytes) :
    ctx'.accts.read a (nonceKeyPrefix ++ tok) = ctx.accts.read a (nonceKeyPrefix ++ tok) :=
  exec_read_eq h (fun hw => by
    have := (wrKey_nonce hw.2).1
    cases f <;> first | exact hf.1 rfl | exact hf.2 rfl | cases this)

end Esdt
