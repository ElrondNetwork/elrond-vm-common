/-
  Proofs/Monad.lean — storage / account-map lemmas, the execution monad's equations,
  a weakest-precondition style predicate `Post` with one rule per primitive.
-/
import Model.Fn
namespace Esdt

/-! ### Store -/

theorem Store.get_erase_same (s : Store) (k : Bytes) : (s.erase k).get k = [] := by
  induction s with
  | nil => rfl
  | cons p rest ih =>
    obtain ⟨k', v⟩ := p
    simp only [Store.erase, List.filter]
    by_cases h : k' = k
    · simp [h]; simpa [Store.erase] using ih
    · simp [h, Store.get]; simpa [Store.erase] using ih

theorem Store.get_erase_ne (s : Store) (k k2 : Bytes) (h : k ≠ k2) : (s.erase k).get k2 = s.get k2 := by
  induction s with
  | nil => rfl
  | cons p rest ih =>
    obtain ⟨k', v⟩ := p
    simp only [Store.erase, List.filter]
    by_cases h1 : k' = k
    · subst h1; simp [Store.get, h]; simpa [Store.erase] using ih
    · simp [h1, Store.get]
      by_cases h2 : k' = k2
      · simp [h2]
      · simp [h2]; simpa [Store.erase] using ih

@[simp] theorem Store.get_put_same (s : Store) (k v : Bytes) : (s.put k v).get k = v := by
  unfold Store.put
  split
  · rename_i h; rw [h]; exact Store.get_erase_same s k
  · simp [Store.get]

theorem Store.get_put_ne (s : Store) (k k2 v : Bytes) (h : k ≠ k2) : (s.put k v).get k2 = s.get k2 := by
  unfold Store.put
  split
  · exact Store.get_erase_ne s k k2 h
  · simp [Store.get, h]; exact Store.get_erase_ne s k k2 h

theorem Store.get_put (s : Store) (k k2 v : Bytes) :
    (s.put k v).get k2 = if k = k2 then v else s.get k2 := by
  by_cases h : k = k2
  · subst h; simp
  · simp [h, Store.get_put_ne _ _ _ _ h]

/-! ### Accts -/

theorem Accts.get_filter_ne (s : Accts) (a a2 : Bytes) (h : a ≠ a2) :
    Accts.get (s.filter (fun p => p.1 ≠ a)) a2 = s.get a2 := by
  induction s with
  | nil => rfl
  | cons p rest ih =>
    obtain ⟨a', x⟩ := p
    simp only [List.filter]
    by_cases h1 : a' = a
    · subst h1; simp [Accts.get, h]; simpa using ih
    · simp [h1, Accts.get]
      by_cases h2 : a' = a2
      · simp [h2]
      · simp [h2]; simpa using ih

@[simp] theorem Accts.get_set_same (s : Accts) (a : Bytes) (x : Acct) : (s.set a x).get a = x := by
  simp [Accts.set, Accts.get]

theorem Accts.get_set_ne (s : Accts) (a a2 : Bytes) (x : Acct) (h : a ≠ a2) :
    (s.set a x).get a2 = s.get a2 := by
  have := Accts.get_filter_ne s a a2 h
  simp [Accts.set, Accts.get, h]; simpa using this

theorem Accts.get_set (s : Accts) (a a2 : Bytes) (x : Acct) :
    (s.set a x).get a2 = if a = a2 then x else s.get a2 := by
  by_cases h : a = a2
  · subst h; simp
  · simp [h, Accts.get_set_ne _ _ _ _ h]

/-! ### views of the account map -/

def Accts.read (A : Accts) (a k : Bytes) : Bytes := (A.get a).store.get k

/-- the account map after one data-trie write -/
def Accts.write (A : Accts) (a k v : Bytes) : Accts :=
  A.set a { A.get a with store := (A.get a).store.put k v }

theorem Accts.read_write (A : Accts) (a k v a2 k2 : Bytes) :
    (A.write a k v).read a2 k2 = if a = a2 ∧ k = k2 then v else A.read a2 k2 := by
  unfold Accts.write Accts.read
  by_cases ha : a = a2
  · subst ha
    rw [Accts.get_set_same]
    simp only [true_and]
    exact Store.get_put _ _ _ _
  · rw [Accts.get_set_ne _ _ _ _ ha]
    simp [ha]

/-- the storage view of a context: value of storage key `k` of account `a` -/
def Ctx.read (c : Ctx) (a k : Bytes) : Bytes := (c.accts.get a).store.get k

/-! ### monad equations -/

@[simp] theorem pure_apply {α} (a : α) (c : Ctx) : (pure a : M α) c = .ok (a, c) := rfl

theorem bind_apply {α β} (m : M α) (f : α → M β) (c : Ctx) :
    (m >>= f) c = match m c with
      | .ok (a, c') => f a c'
      | .err e => .err e
      | .panic => .panic := rfl

@[simp] theorem fail_apply {α} (e : ErrKind) (c : Ctx) : (fail e : M α) c = .err e := rfl
@[simp] theorem goPanic_apply {α} (c : Ctx) : (goPanic : M α) c = .panic := rfl

theorem bind_ok {α β} (m : M α) (f : α → M β) (c : Ctx) (r : β × Ctx) :
    (m >>= f) c = .ok r ↔ ∃ a c1, m c = .ok (a, c1) ∧ f a c1 = .ok r := by
  rw [bind_apply]
  cases h : m c with
  | ok p =>
    obtain ⟨a, c1⟩ := p
    constructor
    · intro hf; exact ⟨a, c1, rfl, hf⟩
    · rintro ⟨a', c1', he, hf⟩
      cases he; exact hf
  | err e => simp
  | panic => simp

theorem bind_panic {α β} (m : M α) (f : α → M β) (c : Ctx) :
    (m >>= f) c = .panic ↔ m c = .panic ∨ ∃ a c1, m c = .ok (a, c1) ∧ f a c1 = .panic := by
  rw [bind_apply]
  cases h : m c with
  | ok p =>
    obtain ⟨a, c1⟩ := p
    constructor
    · intro hf; exact Or.inr ⟨a, c1, rfl, hf⟩
    · rintro (hp | ⟨a', c1', he, hf⟩)
      · cases hp
      · cases he; exact hf
  | err e => simp
  | panic => simp

/-! ### `Post`: what holds of every successful result -/

def Post {α} (m : M α) (c : Ctx) (Q : α → Ctx → Prop) : Prop :=
  ∀ a c', m c = .ok (a, c') → Q a c'

theorem Post.pure {α} {a : α} {c : Ctx} {Q : α → Ctx → Prop} (h : Q a c) : Post (pure a : M α) c Q := by
  intro a' c' he
  simp at he
  obtain ⟨rfl, rfl⟩ := he
  exact h

theorem Post.bind {α β} {m : M α} {f : α → M β} {c : Ctx} {Q : β → Ctx → Prop}
    (h : Post m c (fun a c1 => Post (f a) c1 Q)) : Post (m >>= f) c Q := by
  intro b c' he
  rw [bind_ok] at he
  obtain ⟨a, c1, h1, h2⟩ := he
  exact h a c1 h1 b c' h2

theorem Post.fail {α} {e : ErrKind} {c : Ctx} {Q : α → Ctx → Prop} : Post (fail e : M α) c Q := by
  intro a c' he; simp at he

theorem Post.goPanic {α} {c : Ctx} {Q : α → Ctx → Prop} : Post (goPanic : M α) c Q := by
  intro a c' he; simp at he

theorem Post.guardE {b : Bool} {e : ErrKind} {c : Ctx} {Q : Unit → Ctx → Prop}
    (h : b = false → Q () c) : Post (guardE b e) c Q := by
  intro a c' he
  unfold Esdt.guardE at he
  cases b with
  | true => simp at he
  | false =>
    simp at he
    obtain ⟨-, rfl⟩ := he
    exact h rfl

theorem Post.mono {α} {m : M α} {c : Ctx} {R Q : α → Ctx → Prop}
    (h : Post m c R) (hq : ∀ a c', R a c' → Q a c') : Post m c Q :=
  fun a c' he => hq a c' (h a c' he)

theorem Post.intro {α} {m : M α} {c : Ctx} {Q : α → Ctx → Prop} (h : ∀ a c', Q a c') : Post m c Q :=
  fun a c' _ => h a c'

theorem Post.and {α} {m : M α} {c : Ctx} {R Q : α → Ctx → Prop}
    (h1 : Post m c R) (h2 : Post m c Q) : Post m c (fun a c' => R a c' ∧ Q a c') :=
  fun a c' he => ⟨h1 a c' he, h2 a c' he⟩

theorem Post.deref {α} {o : Option α} {c : Ctx} {Q : α → Ctx → Prop}
    (h : ∀ a, o = some a → Q a c) : Post (deref o) c Q := by
  intro a c' he
  cases o with
  | none => simp [Esdt.deref] at he
  | some x =>
    simp [Esdt.deref] at he
    obtain ⟨rfl, rfl⟩ := he
    exact h x rfl

theorem Post.argAt {args : List Bytes} {i : Nat} {c : Ctx} {Q : Bytes → Ctx → Prop}
    (h : ∀ a, args[i]? = some a → Q a c) : Post (argAt args i) c Q :=
  Post.deref h

theorem Post.ite {α} {p : Prop} [Decidable p] {A B : M α} {c : Ctx} {Q : α → Ctx → Prop}
    (h1 : p → Post A c Q) (h2 : ¬ p → Post B c Q) : Post (if p then A else B) c Q := by
  split
  · exact h1 ‹_›
  · exact h2 ‹_›

theorem Post.elim {α} {m : M α} {c : Ctx} {Q : α → Ctx → Prop} (h : Post m c Q) {a : α} {c' : Ctx}
    (he : m c = .ok (a, c')) : Q a c' := h a c' he

theorem Post.of_forall {α} {m : M α} {c : Ctx} {Q : α → Ctx → Prop} (h : ∀ a c', m c = .ok (a, c') → Q a c') :
    Post m c Q := h

attribute [irreducible] Post

end Esdt
