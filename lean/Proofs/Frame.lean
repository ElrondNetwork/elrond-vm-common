/-
  Proofs/Frame.lean — C05: every built-in function has a bounded footprint.
  `Frame F A A'`: accounts `A'` differ from `A` at most in the slots selected by `F`.
  Read-only helpers are handled by `RO`, writers by `FrameStep` lemmas with footprint side conditions.
-/
import Proofs.Wp
import Proofs.Compositional
namespace Esdt

inductive Slot
  | key (k : Bytes)
  | balance | reward | owner | name
deriving DecidableEq

def SlotSame (x y : Acct) : Slot → Prop
  | .key k => y.store.get k = x.store.get k
  | .balance => y.balance = x.balance
  | .reward => y.reward = x.reward
  | .owner => y.owner = x.owner
  | .name => y.name = x.name

def Frame (F : Bytes → Slot → Prop) (A A' : Accts) : Prop :=
  ∀ a s, ¬ F a s → SlotSame (A.get a) (A'.get a) s

theorem Frame.refl (F : Bytes → Slot → Prop) (A : Accts) : Frame F A A := by
  intro a s _; cases s <;> rfl

theorem SlotSame.trans {x y z : Acct} {s : Slot} (h1 : SlotSame x y s) (h2 : SlotSame y z s) : SlotSame x z s := by
  cases s <;> simp only [SlotSame] at * <;> rw [h2, h1]

theorem Frame.trans {F : Bytes → Slot → Prop} {A B C : Accts} (h1 : Frame F A B) (h2 : Frame F B C) : Frame F A C :=
  fun a s hs => (h1 a s hs).trans (h2 a s hs)

/-! ### read-only computations -/

/-- `m` never changes the accounts -/
@[reducible] def RO {α} (m : M α) : Prop := ∀ c, Post m c (fun _ c' => c'.accts = c.accts)

theorem RO.pure {α} (a : α) : RO (pure a : M α) := fun _ => Post.pure rfl
theorem RO.fail {α} (e : ErrKind) : RO (fail e : M α) := fun _ => Post.fail
theorem RO.goPanic {α} : RO (goPanic : M α) := fun _ => Post.goPanic

theorem RO.bind {α β} {m : M α} {f : α → M β} (hm : RO m) (hf : ∀ a, RO (f a)) : RO (m >>= f) := by
  intro c
  apply Post.bind
  apply Post.mono (hm c)
  intro a c1 h1
  apply Post.mono (hf a c1)
  intro b c2 h2
  rw [h2, h1]

theorem RO.of_eq {α} (m : M α) (h : ∀ c a c', m c = .ok (a, c') → c'.accts = c.accts) : RO m :=
  fun c => Post.of_forall (h c)

theorem RO.tick (d : Dep) : RO (tick d) := RO.of_eq _ (by
  intro c a c' h; unfold Esdt.tick at h; split at h <;> simp at h; rw [← h])
theorem RO.readKey (a k : Bytes) : RO (readKey a k) := RO.of_eq _ (by
  intro c x c' h; simp [Esdt.readKey] at h; rw [← h.2])
theorem RO.getAcct (a : Bytes) : RO (getAcct a) := RO.of_eq _ (by
  intro c x c' h; simp [Esdt.getAcct] at h; rw [← h.2])
/-- read-only is compositional: hence every read-only helper is (`comp_checkBasic RO.comp c : RO (checkBasic c)`, …) -/
theorem RO.comp : Compositional @RO :=
  ⟨RO.pure, RO.fail, RO.goPanic, fun hm hf => RO.bind hm hf, RO.tick, RO.readKey, RO.getAcct⟩

macro "ro_spec" : tactic => `(tactic| comp_leaf RO.comp)

/-! ### writers -/

theorem spec_readKey (a k : Bytes) (c : Ctx) :
    Post (readKey a k) c (fun v c' => c'.accts = c.accts ∧ v = c.accts.read a k) := by
  apply Post.of_forall; intro v c' h; simp [readKey] at h; obtain ⟨rfl, rfl⟩ := h; exact ⟨rfl, rfl⟩

theorem spec_writeKey (a k v : Bytes) (c : Ctx) :
    Post (writeKey a k v) c (fun _ c' => c'.accts = c.accts.write a k v) := by
  unfold writeKey
  apply Post.bind
  apply Post.mono (RO.tick .w c)
  intro _ c1 h1
  apply Post.of_forall
  intro u c2 he
  simp at he
  rw [← he]
  simp only [Accts.write, h1]

/-- `m` started in `c` only changes slots in `F` -/
@[reducible] def FrameStep (F : Bytes → Slot → Prop) {α} (m : M α) (c : Ctx) : Prop :=
  Post m c (fun _ c' => ∀ A0, Frame F A0 c.accts → Frame F A0 c'.accts)

theorem FrameStep.of_RO {F : Bytes → Slot → Prop} {α} {m : M α} (h : RO m) (c : Ctx) : FrameStep F m c :=
  Post.mono (h c) (fun _ c' he A0 h0 => by rw [he]; exact h0)

theorem Accts.get_set_slot (A : Accts) (a : Bytes) (x : Acct) (b : Bytes) (s : Slot)
    (h : b = a → SlotSame (A.get a) x s) : SlotSame (A.get b) ((A.set a x).get b) s := by
  by_cases hb : a = b
  · subst hb; rw [Accts.get_set_same]; exact h rfl
  · rw [Accts.get_set_ne _ _ _ _ hb]; cases s <;> rfl

/-- a storage write into the footprint -/
theorem Frame.write {F : Bytes → Slot → Prop} {A0 A : Accts} (h0 : Frame F A0 A) {a k : Bytes} (v : Bytes)
    (hF : F a (.key k)) : Frame F A0 (A.write a k v) := by
  refine Frame.trans h0 (fun b s hs => ?_)
  apply Accts.get_set_slot
  rintro rfl
  cases s with
  | key k2 => exact Store.get_put_ne _ _ _ _ (fun e => hs (e ▸ hF))
  | _ => rfl

/-- a change of one record in (at most) one slot of the footprint -/
theorem Frame.set {F : Bytes → Slot → Prop} {A0 A : Accts} (h0 : Frame F A0 A) {a : Bytes} {s : Slot} {x : Acct}
    (hF : F a s) (hx : ∀ s', s' ≠ s → SlotSame (A.get a) x s') : Frame F A0 (A.set a x) := by
  refine Frame.trans h0 (fun b s' hs' => ?_)
  apply Accts.get_set_slot
  rintro rfl
  exact hx s' (fun e => hs' (e ▸ hF))

theorem FrameStep.writeKey (F : Bytes → Slot → Prop) (a k v : Bytes) (c : Ctx) (hF : F a (.key k)) :
    FrameStep F (writeKey a k v) c :=
  Post.mono (spec_writeKey a k v c) (fun _ c' he A0 h0 => by rw [he]; exact h0.write v hF)

/-- bind rule for frame steps -/
theorem FrameStep.bind {F : Bytes → Slot → Prop} {α β} {m : M α} {f : α → M β} {c : Ctx}
    (hm : FrameStep F m c) (hf : ∀ a c1, FrameStep F (f a) c1) : FrameStep F (m >>= f) c := by
  unfold FrameStep at *
  apply Post.bind
  apply Post.mono hm
  intro a c1 h1
  apply Post.mono (hf a c1)
  intro b c2 h2 A0 h0
  exact h2 A0 (h1 A0 h0)

/-! ### the footprint of the token functions -/

def addrOK (c : Call) (a : Bytes) : Prop := a = c.caller ∨ a = c.rcv ∨ a = systemAccountAddress ∨ a ∈ c.args

/-- protocol keys of a token named in the input; `r` / `n`: whether the role-list / nonce-counter namespace is included -/
def protoKey (r n : Bool) (c : Call) (k : Bytes) : Prop :=
  ∃ t ∈ c.args, (∃ s, k = esdtKeyPrefix ++ t ++ s) ∨ (r = true ∧ k = roleKeyPrefix ++ t) ∨ (n = true ∧ k = nonceKeyPrefix ++ t)

/-- token functions: only protocol entries (balance / role list / nonce counter / pause flag) of tokens named in
    the input, only in the sender, the destination, the system account or an address given as argument -/
def tokenFootprint (r n : Bool) (c : Call) (a : Bytes) : Slot → Prop
  | .key k => addrOK c a ∧ protoKey r n c k
  | _ => False

/-- account-level functions: only owner / user name / developer reward / balance fields -/
def acctFootprint (f : FnId) (c : Call) (a : Bytes) : Slot → Prop
  | .owner => f = .changeOwnerAddress ∧ a = c.rcv
  | .name => f = .setUserName ∧ a = c.rcv
  | .reward => f = .claimDeveloperRewards ∧ a = c.rcv
  | .balance => f = .claimDeveloperRewards ∧ a = c.caller
  | .key _ => False

/-- SaveKeyValue: only listed keys of the caller's own account that do not carry the protected prefix -/
def skvFootprint (c : Call) (a : Bytes) : Slot → Prop
  | .key k => a = c.caller ∧ k ∈ c.args ∧ isAllowedToSaveUnderKey k = true
  | _ => False

theorem fp_esdt (r n : Bool) (c : Call) (a t s : Bytes) (ha : addrOK c a) (ht : t ∈ c.args) :
    tokenFootprint r n c a (.key (esdtKeyPrefix ++ t ++ s)) := ⟨ha, t, ht, Or.inl ⟨s, rfl⟩⟩

theorem addrOK.caller (c : Call) : addrOK c c.caller := Or.inl rfl

end Esdt
