/-
  Proofs/Short.lean — every value the functions store is shorter than 2^63 bytes (it is a marshalled token / role list,
  a flag pair, a counter, an empty value, or — SaveKeyValue — one of the call's own arguments): `Short` is preserved by
  every call whose arguments are themselves Go slices.
-/
import Proofs.WF
namespace Esdt

/-- the call's arguments are Go slices -/
def ArgsShort (c : Call) : Prop := ∀ a ∈ c.args, a.length < two63

@[reducible] def ShortPres {α} (m : M α) : Prop :=
  ∀ c, Short c.accts → Post m c (fun _ c' => Short c'.accts)

theorem ShortPres.fail {α} (e : ErrKind) : ShortPres (fail e : M α) := Pres.fail e

theorem short_write {A : Accts} (h : Short A) (a k v : Bytes) (hv : v.length < two63) : Short (A.write a k v) := by
  intro a2 k2
  rw [Accts.read_write]
  split
  · exact hv
  · exact h a2 k2

theorem ShortPres.writeKey (a k v : Bytes) (hv : v.length < two63) : ShortPres (writeKey a k v) := by
  intro c hs
  apply Post.mono (spec_writeKey a k v c)
  intro _ c' he
  rw [he]; exact short_write hs a k v hv

/-- account-field updates do not touch the storage -/
theorem read_set_fields (A : Accts) (a : Bytes) (x : Acct) (hx : x.store = (A.get a).store) (a2 k : Bytes) :
    (A.set a x).read a2 k = A.read a2 k := by
  unfold Accts.read
  rw [Accts.get_set]
  split
  · rename_i he; subst he; rw [hx]
  · rfl

theorem short_writeClosed (F : Bytes → Slot → Prop) : WriteClosed F (fun v => v.length < two63) Short :=
  .of_store (fun _ a k v _ hv h => short_write h a k v hv)
    (fun A a x hx h a2 k => by rw [read_set_fields A a x hx]; exact h a2 k)

/-- every value a function stores is a marshalled token / role list, a flag pair, a counter, an empty value or — SaveKeyValue
    — one of the call's own arguments: shorter than 2^63 bytes, provided those arguments are (Go slices) -/
theorem short_runFn (f : FnId) (env : Env) (c : Call) (ha : f = .saveKeyValue → ArgsShort c) :
    Pres Short (runFn f env c) :=
  writes_runFn f env c Short ⟨fun _ a k v _ hv h => short_write h a k v (hv.elim id (fun hv => ha hv.1 v hv.2)),
    (short_writeClosed _).field⟩

theorem short_step (f : FnId) (env : Env) (c : Call) (ctx ctx' : Ctx) (out : VMOutput) (ha : ArgsShort c)
    (hs : Short ctx.accts) (h : exec env f c ctx = .ok (out, ctx')) : Short ctx'.accts :=
  (short_runFn f env c (fun _ => ha) ctx hs).elim h

theorem sp_addToESDTBalance (a k : Bytes) (d : Int) (rae : Bool) : Pres Short (addToESDTBalance a k d rae) :=
  comp_addToESDTBalance Pres.comp d rae (ShortPres.writeKey a k)

theorem sp_addNFTToDestination (env : Env) (dst : Bytes) (t : Token) (tk : Bytes) (mv rae : Bool) :
    Pres Short (addNFTToDestination env dst t tk mv rae) :=
  comp_addNFTToDestination Pres.comp env t mv rae (fun _ => ShortPres.writeKey dst _)

theorem sp_transferOne (env : Env) (c : Call) (l : Bool) (dst tok : Bytes) (n q : Nat) (v : Bool) :
    Pres Short (transferOne env c l dst tok n q v) :=
  comp_transferOne Pres.comp env c l dst tok n q v (fun t => comp_saveNFT Pres.comp t _ (fun _ => ShortPres.writeKey _ _))
    (fun t => sp_addNFTToDestination env dst t _ v _)

end Esdt
