/-
  Proofs/Base.lean — the three parts of the shard invariant that EVERY successful call of EVERY function keeps:
  one record per address (Proofs/SetClosed), well-formed token entries (Proofs/WF) and short stored values (Proofs/Short).
  Well-formedness is kept TOGETHER with shortness (`Tidy`): an entry just written is known as the encoding of a
  well-formed token, and it is its being short that makes it decode again when the same call reads it back (same-shard
  self-transfers, repeated items of a multi transfer).  `Tidy` is preserved by each writer helper on its own, so the
  functions follow from `pres_*` (Proofs/Pres.lean) or from their specifications.
-/
import Proofs.SetClosed
namespace Esdt

/-- well-formed token entries, all stored values short -/
def Tidy (A : Accts) : Prop := Canon A ∧ Short A

theorem Tidy.of_canonM {α} {m : M α} {c : Ctx} (hs : Pres Short m) (h : Tidy c.accts)
    (hc : Post m c (fun _ c' => CanonM c'.accts)) : Post m c (fun _ c' => Tidy c'.accts) :=
  (Post.and hc (hs c h.2)).mono fun _ _ h => ⟨h.1.toCanon h.2, h.2⟩

/-- `saveESDTNFTToken` of a token with in-range numeric fields: the key is built from the token's own nonce, a
    non-positive value deletes, and what `Marshal` returned is short — nothing else is needed -/
theorem Saved.tidy {A A' : Accts} {a tok : Bytes} {t : Token} {rae : Bool}
    (s : Saved A A' a (esdtKeyPrefix ++ tok) t rae) (hn : NumOK t) (h : Tidy A) : Tidy A' :=
  have hs : Short A' := s.written ▸ short_write h.2 _ _ _ s.short
  ⟨(s.canonM hn h.1.toM).toCanon hs, hs⟩

/-- `addToESDTBalance` under a token key: the token comes out of the slot it goes back to -/
theorem tidy_addToESDTBalance (a tok : Bytes) (d : Int) (rae : Bool) :
    Pres Tidy (addToESDTBalance a (esdtKeyPrefix ++ tok) d rae) := fun c h =>
  Tidy.of_canonM (sp_addToESDTBalance a _ d rae) h <| (spec_addToESDTBalance a _ d rae c).mono
    fun _ _ ⟨_, _, ht, hty, hv, hnn, _, hw⟩ => OneWrite.canon ⟨ht, hty, hv, hnn, hw⟩ h.1 (tokKey_esdt tok)

theorem tidy_addNFTToDestination (env : Env) (dst tok : Bytes) {t : Token} (hn : NumOK t) (mv rae : Bool) :
    Pres Tidy (addNFTToDestination env dst t (esdtKeyPrefix ++ tok) mv rae) := fun c h =>
  (addNFTToDestination_credit env dst t _ mv rae rfl).mono fun _ _ ⟨_, _, _, _, cr⟩ => cr.saved.tidy (hn.withValue _) h

theorem tidy_transferOne (env : Env) (c : Call) (l : Bool) (dst tok : Bytes) (n q : Nat) (v : Bool) :
    Pres Tidy (transferOne env c l dst tok n q v) := by
  intro ctx h
  apply (transferOne_spec env c l dst tok n q v ctx).mono
  rintro _ _ ⟨t, _, A1, _, _, held, _, saved, hf, ht⟩
  have hn := decToken_num _ _ held.old
  have h1 : Tidy A1 := saved.tidy (hn.withValue _) h
  cases l
  · exact (hf rfl).2 ▸ h1
  · obtain ⟨_, _, _, cr⟩ := ht rfl
    exact cr.saved.tidy (hn.withValue _) h1

/-- ESDTNFTTransfer: the sender half from its specification, the destination half credits the decoded payload -/
theorem tidy_esdtNFTTransfer (env : Env) (c : Call) : Pres Tidy (esdtNFTTransfer env c) := by
  intro ctx h
  by_cases hself : c.caller = c.rcv
  · apply (nftTransfer_sender_path env c ctx hself).mono
    intro _ ctx' hS
    obtain ⟨_, _, _, dst, t, _, A1, _, _, _, _, _, _, _, _, _, _, held, _, saved, _, hcross, hsame⟩ :=
      (nftTransferSender_spec env c ctx).elim hS
    have hn := decToken_num _ _ held.old
    have h1 : Tidy A1 := saved.tidy (hn.withValue _) h
    by_cases hx : env.self = shardOf env.nshards dst
    · obtain ⟨_, _, _, cr⟩ := hsame hx
      exact cr.saved.tidy (hn.withValue _) h1
    · exact (hcross hx).2.1 ▸ h1
  · exact comp_esdtNFTTransfer Pres.comp env c (fun e => absurd e hself) (fun e => absurd e hself)
      (fun _ tok _ _ _ _ hd mv => tidy_addNFTToDestination env _ tok (decToken_num _ _ hd) mv _) ctx h

/-- every function keeps the representation invariant (SaveKeyValue stores its own arguments: they have to be Go
    slices) -/
theorem tidy_runFn (f : FnId) (env : Env) (c : Call) (ha : f = .saveKeyValue → ArgsShort c) :
    Pres Tidy (runFn f env c) := by
  intro ctx h
  -- the functions whose well-formedness is known in encoded form (`CanonM`)
  have enc : (∀ out ctx', exec env f c ctx = .ok (out, ctx') → CanonM ctx'.accts) →
      Post (runFn f env c) ctx (fun _ c' => Tidy c'.accts) :=
    fun k => Tidy.of_canonM (short_runFn f env c ha) h (Post.of_forall k)
  have plain : f.writesTokens = false ∨ f = .esdtPause ∨ f = .esdtUnPause →
      Post (runFn f env c) ctx (fun _ c' => Tidy c'.accts) :=
    fun hf => enc fun out ctx' he => canon_of_no_token_write env c ctx ctx' out hf h.1 he
  have bal : ∀ a tok d, Pres Tidy (addToESDTBalance a (esdtKeyPrefix ++ tok) d c.rae) :=
    fun a tok d => tidy_addToESDTBalance a tok d c.rae
  cases f
  case claimDeveloperRewards | changeOwnerAddress | setUserName | saveKeyValue | unSetRole | setRole
    | nftCreateRoleTransfer => exact plain (Or.inl rfl)
  case esdtPause => exact plain (Or.inr (Or.inl rfl))
  case esdtUnPause => exact plain (Or.inr (Or.inr rfl))
  case esdtTransfer => exact comp_esdtTransfer Pres.comp env c (fun tok _ a d _ => bal a tok d) ctx h
  case esdtBurn => exact comp_esdtBurn Pres.comp env c (fun tok _ d => bal _ tok d) ctx h
  case localBurn => exact comp_esdtLocalBurn Pres.comp env c (fun tok _ d => bal _ tok d) ctx h
  case localMint => exact comp_esdtLocalMint Pres.comp env c (fun tok _ d => bal _ tok d) ctx h
  case esdtFreeze => exact enc fun out ctx' he => canon_toggleFreeze env c ctx ctx' out .freeze (by decide) h.1 he
  case esdtUnFreeze => exact enc fun out ctx' he => canon_toggleFreeze env c ctx ctx' out .unfreeze (by decide) h.1 he
  case esdtWipe => exact enc fun out ctx' he => canon_wipe env c ctx ctx' out h.1 he
  case nftCreate => exact enc fun out ctx' he => canon_nftCreate env c ctx ctx' out h.1 he
  case nftAddQuantity =>
    apply (addQuantity_spec env c ctx).mono
    rintro _ _ ⟨_, _, _, t, _, _, _, _, _, _, held, _, saved⟩
    exact saved.tidy ((decToken_num _ _ held.old).withValue _) h
  case nftBurn =>
    apply (nftBurn_spec env c ctx).mono
    rintro _ _ ⟨_, _, _, t, _, _, _, _, _, _, held, _, _, saved⟩
    exact saved.tidy ((decToken_num _ _ held.old).withValue _) h
  case nftAddURI =>
    apply (addURI_spec env c ctx).mono
    rintro _ _ ⟨_, _, t, m, _, _, _, _, held, hm, saved⟩
    have hn := decToken_num _ _ held.old
    exact saved.tidy ⟨hn.type, fun _ e => by cases e; exact hn.md m hm⟩ h
  case nftUpdateAttributes =>
    apply (updateAttributes_spec env c ctx).mono
    rintro _ _ ⟨_, _, _, t, m, _, _, _, _, _, held, hm, saved⟩
    have hn := decToken_num _ _ held.old
    exact saved.tidy ⟨hn.type, fun _ e => by cases e; exact hn.md m hm⟩ h
  case nftTransfer => exact tidy_esdtNFTTransfer env c ctx h
  case multiTransfer =>
    exact comp_multiTransfer Pres.comp env c (fun _ dst _ _ tok _ _ l v _ _ _ => tidy_transferOne env c l dst tok _ _ v)
      (fun _ _ tok _ _ _ _ hd mv => tidy_addNFTToDestination env _ tok (decToken_num _ _ hd) mv _)
      (fun _ _ tok _ d => bal _ tok d) ctx h

theorem canon_short_step (f : FnId) (env : Env) (c : Call) (ctx ctx' : Ctx) (out : VMOutput)
    (hC : Canon ctx.accts) (hS0 : Short ctx.accts) (ha : ArgsShort c)
    (h : exec env f c ctx = .ok (out, ctx')) : Canon ctx'.accts ∧ Short ctx'.accts :=
  (tidy_runFn f env c (fun _ => ha) ctx ⟨hC, hS0⟩).elim h

/-- ESDTTransfer preserves the representation invariant — self-transfers included -/
theorem canon_esdtTransfer_all (env : Env) (c : Call) (ctx ctx' : Ctx) (out : VMOutput) (hC : Canon ctx.accts)
    (hS : Short ctx.accts) (h : esdtTransfer env c ctx = .ok (out, ctx')) : CanonM ctx'.accts :=
  ((tidy_runFn .esdtTransfer env c nofun ctx ⟨hC, hS⟩).elim h).1.toM

theorem C15base (f : FnId) (env : Env) (c : Call) (ctx ctx' : Ctx) (out : VMOutput)
    (hN : ctx.accts.Nodup) (hC : Canon ctx.accts) (hS0 : Short ctx.accts) (ha : ArgsShort c)
    (hreach : c.caller = c.rcv → present env.nshards env.self c.caller = true)
    (h : exec env f c ctx = .ok (out, ctx')) : ctx'.accts.Nodup ∧ Canon ctx'.accts ∧ Short ctx'.accts :=
  ⟨nodup_step f env c ctx ctx' out hN h, canon_short_step f env c ctx ctx' out hC hS0 ha h⟩

end Esdt
