/-
  Proofs/UnifiedFrozen.lean — C04 in the mixed world (Proofs/Unified.lean), fungible part: while an account is frozen for a
  token, its balance of the token does not move and it stays frozen along ANY history that interleaves ESDTTransfer traffic
  (user transactions, deliveries, refusals, refunds — on any shard, by anybody) with calls of the 20 functions that are not
  transfers; the only steps that may change it are the ones the property names: a wipe / unfreeze of that very account and
  token by the system contract, and a refund (return-after-error) to that account.
  `Fz a tok v` says so of one shard; a balance change can reach the frozen entry only behind the freeze gate, which looks
  at the entry the slot holds and finds it frozen (`Fz.write_gated`).
  (ESDTNFTTransfer / MultiESDTNFTTransfer steps are not in the world theorem of this file; Proofs/UnifiedFrozenMulti.lean
  adds them.)
-/
import Proofs.UnifiedMeta
import Proofs.FrozenHistory
import Proofs.Gated
namespace Esdt

/-- `a` is frozen for `tok` and holds `v` of it -/
def Fz (a tok : Bytes) (v : Int) (A : Accts) : Prop :=
  FrozenAt A a tok ∧ balOf (A.read a (esdtKeyPrefix ++ tok)) = v

variable {a tok : Bytes} {v : Int}

theorem Fz.congr {A A' : Accts} (h : A'.read a (esdtKeyPrefix ++ tok) = A.read a (esdtKeyPrefix ++ tok))
    (hf : Fz a tok v A) : Fz a tok v A' := by
  obtain ⟨hb, hfr⟩ := frozenAt_congr h hf.1
  exact ⟨hfr, by rw [hb]; exact hf.2⟩

theorem Fz.write_other {A : Accts} (hf : Fz a tok v A) (a1 k1 val : Bytes)
    (hne : ¬ (a1 = a ∧ k1 = esdtKeyPrefix ++ tok)) : Fz a tok v (A.write a1 k1 val) :=
  Fz.congr (by rw [Accts.read_write, if_neg hne]) hf

theorem ntc_fz (a tok : Bytes) (v : Int) : NTC (Fz a tok v) := by
  refine ⟨fun A a1 k1 val hk h => h.write_other a1 k1 val (fun he => hk (he.2 ▸ tokKey_esdt tok)), fun A a1 x hx h => ?_⟩
  exact Fz.congr (read_set_fields A a1 x hx a _) h

/-- `Fz` keeps the freeze gate of its slot shut: it survives a write into another slot, and one into its own slot behind
    the gate, which cannot have found the entry there not frozen -/
theorem Fz.write_gated {A : Accts} (hf : Fz a tok v A) (a1 k1 val : Bytes)
    (hg : a1 = a → k1 = esdtKeyPrefix ++ tok → ∃ t, tokenOf (A.read a1 k1) = some t ∧ frozenOf t.properties = false) :
    Fz a tok v (A.write a1 k1 val) := by
  by_cases he : a1 = a ∧ k1 = esdtKeyPrefix ++ tok
  · obtain ⟨t, ht, hfr⟩ := hg he.1 he.2
    obtain ⟨tf, htf, hfz⟩ := hf.1
    rw [he.1, he.2, htf] at ht
    cases ht
    rw [hfr] at hfz; cases hfz
  · exact hf.write_other _ _ _ he

/-! ### ESDTTransfer -/

/-- a balance change through the gate cannot hit the frozen entry -/
theorem fz_addTo (a1 k1 : Bytes) (d : Int) (hsc : a ≠ esdtSCAddress) :
    Pres (Fz a tok v) (addToESDTBalance a1 k1 d false) :=
  gated_addToESDTBalance d fun _ val hf h => hf.write_gated a1 k1 val (fun ha _ => h.notFrozen (ha ▸ hsc))

/-- … and one aimed at another slot does not touch it, whatever its flag -/
theorem fz_addTo_other (a1 k1 : Bytes) (d : Int) (rae : Bool)
    (hne : ¬ (a1 = a ∧ k1 = esdtKeyPrefix ++ tok)) : Pres (Fz a tok v) (addToESDTBalance a1 k1 d rae) :=
  gated_addToESDTBalance d fun _ _ hf _ => hf.write_other _ _ _ hne

/-- an ESDTTransfer that is not flagged return-after-error (every user transaction, every delivery) -/
theorem fz_esdtTransfer (env : Env) (c : Call) (hrae : c.rae = false) (hsc : a ≠ esdtSCAddress) :
    Pres (Fz a tok v) (esdtTransfer env c) :=
  comp_esdtTransfer Pres.comp env c (fun _ _ _ _ _ => hrae ▸ fz_addTo _ _ _ hsc)

/-- an ESDTTransfer (flagged or not) of another token, or between two other accounts -/
theorem fz_esdtTransfer_other (env : Env) (c : Call)
    (hoth : ∀ t0, c.args[0]? = some t0 → t0 ≠ tok ∨ (c.caller ≠ a ∧ c.rcv ≠ a)) :
    Pres (Fz a tok v) (esdtTransfer env c) :=
  comp_esdtTransfer Pres.comp env c (fun tokenID h0 a1 _ ha1 => fz_addTo_other _ _ _ _ (fun ⟨hea, hek⟩ => by
    rcases hoth tokenID h0 with h | ⟨h1, h2⟩
    · exact h (List.append_cancel_left hek)
    · rcases ha1 with h' | h'
      · exact h1 (h' ▸ hea)
      · exact h2 (h' ▸ hea)))

/-! ### the 20 functions that are not transfers -/

/-- what is assumed of a call for the frozen pair: it is not flagged return-after-error; a wipe / unfreeze is aimed at
    another account or token; a create / add URI / update attributes does not alias the token's fungible key -/
structure LocalFzOK (a tok : Bytes) (f : FnId) (c : Call) : Prop where
  rae : c.rae = false
  notTarget : (f = .esdtWipe ∨ f = .esdtUnFreeze) → ∀ t0, c.args[0]? = some t0 → ¬ (c.rcv = a ∧ t0 = tok)
  noAlias : (f = .nftCreate ∨ f = .nftAddURI ∨ f = .nftUpdateAttributes) → ∀ tok' n, c.args[0]? = some tok' →
    nftKey (esdtKeyPrefix ++ tok') n ≠ esdtKeyPrefix ++ tok

theorem local_fz_step (f : FnId) (env : Env) (c : Call) (A : Accts) (out : VMOutput) (ctx' : Ctx) (hI : SInv A)
    (ok : LocalOK env f c A) (okf : LocalFzOK a tok f c) (hsc : a ≠ esdtSCAddress) (hsys : a ≠ systemAccountAddress)
    (hf : Fz a tok v A) (h : exec env f c { accts := A } = .ok (out, ctx')) : Fz a tok v ctx'.accts := by
  have supplyCase : ∀ op : SupplyOp, op ≠ .wipe ∧ op ≠ .unfreeze → isPauseFn f = false → (op = .create → f = .nftCreate) →
      op.run env c { accts := A } = .ok (out, ctx') → Fz a tok v ctx'.accts := by
    intro op hop hp hcr hrun
    obtain ⟨_, hrs⟩ := ok.notSys hp
    obtain ⟨hb, hfr⟩ := frozen_step op hop env c A out ctx' hI hrs hrun a tok hf.1 okf.rae hsc
      (fun ho => okf.noAlias (Or.inl (hcr ho)))
    exact ⟨hfr, by rw [hb]; exact hf.2⟩
  have plainCase : PlainFn f → Fz a tok v ctx'.accts := fun hp =>
    plain_pres (ntc_fz a tok v) hp env c { accts := A } ctx' out hf h
  have otherSlot : ∀ (t0 val : Bytes), c.args[0]? = some t0 → (f = .esdtWipe ∨ f = .esdtUnFreeze) →
      ctx'.accts = A.write c.rcv (esdtKeyPrefix ++ t0) val → Fz a tok v ctx'.accts := by
    intro t0 val h0 hfn hw
    rw [hw]
    refine hf.write_other _ _ _ (fun he => okf.notTarget hfn t0 h0 ⟨he.1, List.append_cancel_left he.2⟩)
  have metaCase : ∀ {tok' nb : Bytes} {t : Token} {m m' : MetaData}, c.args[0]? = some tok' →
      MetaWrite A ctx'.accts c.caller (esdtKeyPrefix ++ tok') (u64 (beNat nb)) t m m' →
      (f = .nftAddURI ∨ f = .nftUpdateAttributes) → Fz a tok v ctx'.accts := by
    intro tok' nb t m m' h0 hw hfn
    rw [hw.written]
    exact hf.write_other _ _ _ (fun he => okf.noAlias (Or.inr hfn) tok' m.nonce h0 he.2)
  have hnt := ok.notTransfer
  unfold exec at h
  cases f <;> simp only [runFn] at h
  · exact plainCase .claim
  · exact plainCase .owner
  · exact plainCase .name
  · exact plainCase .skv
  · obtain ⟨t0, _, hw⟩ := (pause_effect true env c { accts := A }).elim h
    simp only at hw
    rw [hw]; exact hf.write_other _ _ _ (fun he => hsys he.1.symm)
  · obtain ⟨t0, _, hw⟩ := (pause_effect false env c { accts := A }).elim h
    simp only at hw
    rw [hw]; exact hf.write_other _ _ _ (fun he => hsys he.1.symm)
  · cases hnt
  · exact supplyCase .burn (by decide) rfl (fun ho => by cases ho) h
  · exact supplyCase .freeze (by decide) rfl (fun ho => by cases ho) h
  · obtain ⟨t0, t, h0, _, _, _, hw⟩ := (toggleFreeze_effect .unfreeze (by decide) env c { accts := A }).elim h
    exact otherSlot t0 _ h0 (Or.inr rfl) hw
  · obtain ⟨t0, t, h0, _, _, _, hw⟩ := (wipe_effect env c { accts := A }).elim h
    exact otherSlot t0 _ h0 (Or.inl rfl) hw
  · exact plainCase .unSetRole
  · exact plainCase .setRole
  · exact supplyCase .localBurn (by decide) rfl (fun ho => by cases ho) h
  · exact supplyCase .mint (by decide) rfl (fun ho => by cases ho) h
  · exact supplyCase .addQty (by decide) rfl (fun ho => by cases ho) h
  · exact supplyCase .nftBurn (by decide) rfl (fun ho => by cases ho) h
  · exact supplyCase .create (by decide) rfl (fun _ => rfl) h
  · cases hnt
  · exact plainCase .handOver
  · obtain ⟨tok', nb, attrs, t, m, h0, _, _, _, hw⟩ := (updateAttributes_effect env c { accts := A }).elim h
    exact metaCase h0 hw (Or.inr rfl)
  · obtain ⟨tok', nb, t, m, h0, _, _, hw⟩ := (addURI_effect env c { accts := A }).elim h
    exact metaCase h0 hw (Or.inl rfl)
  · cases hnt

/-! ### the world: ESDTTransfer traffic mixed with the 20 other functions -/

/-- the frozen account lives on shard `i` -/
def FzW (a tok : Bytes) (v : Int) (i : Nat) (w : UWorld) : Prop := ∃ A, w.shards[i]? = some A ∧ Fz a tok v A

/-- what is assumed of a step for the frozen pair -/
def UFzStepOK (a tok : Bytes) (w : UWorld) : UStep → Prop
  | .ft (.user c) => c.rae = false
  | .ft (.deliver _) => True
  | .ft (.refund i) => ∀ m, w.ft[i]? = some m → m.tok ≠ tok ∨ (m.rcv ≠ a ∧ m.caller ≠ a)
  | .call _ f c => LocalFzOK a tok f c
  | .nft _ => False
  | .multi _ => False

theorem ustep_fz (e : Env) (w : UWorld) (st : UStep) (i : Nat) (hI : UInv e w) (hok : UStepOK e w st)
    (hfz : UFzStepOK a tok w st) (hsc : a ≠ esdtSCAddress) (hsys : a ≠ systemAccountAddress)
    (hF : FzW a tok v i w) : FzW a tok v i (ustep e w st) := by
  refine ustep_shard i (fun s fn c hc A hA hf => ?_) hF
  cases st with
  | nft st => exact hfz.elim
  | multi st => exact hfz.elim
  | call s' fn' c' =>
    cases hc
    exact Post.of_forall fun out ctx' hex =>
      local_fz_step fn _ c A out ctx' (hI.shards A (List.mem_of_getElem? hA)) (hok A hA) hfz hsc hsys hf hex
  | ft st =>
    cases st with
    | user c' => cases hc; exact fz_esdtTransfer _ c hfz hsc _ hf
    | deliver j =>
      obtain ⟨m, hm, hc⟩ := Option.map_eq_some_iff.mp hc; cases hc
      exact fz_esdtTransfer _ _ rfl hsc _ hf
    | refund j =>
      obtain ⟨m, hm, hc⟩ := Option.map_eq_some_iff.mp hc; cases hc
      exact fz_esdtTransfer_other _ _ (fun t0 ht0 => by cases ht0; exact hfz m hm) _ hf

/-- every step is admissible for the frozen pair, on the world it runs on -/
def UFzStepsOK (e : Env) (a tok : Bytes) : List UStep → UWorld → Prop
  | [], _ => True
  | st :: rest, w => UFzStepOK a tok w st ∧ UFzStepsOK e a tok rest (ustep e w st)

/-- FULL over histories of ESDTTransfer traffic mixed with the 20 non-transfer functions -/
theorem unified_fz_history (e : Env) (i : Nat) (hsc : a ≠ esdtSCAddress) (hsys : a ≠ systemAccountAddress) :
    ∀ (steps : List UStep) (w : UWorld), UInv e w → UStepsOK e steps w → UFzStepsOK e a tok steps w →
      FzW a tok v i w → FzW a tok v i (urun e steps w).1 :=
  urun_pres e fun st _ w hI hok hR hF => ⟨ustep_fz e w st i hI hok hR.1 hsc hsys hF, hR.2⟩

end Esdt
