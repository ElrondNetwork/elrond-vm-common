/-
  Proofs/NetworkNonce.lean — C07 over histories WITH hand-overs of the create role.

  World: the account states of all shards, the hand-over messages in flight, and (ghost) every nonce a successful
  ESDTNFTCreate of the token ever returned.  Steps: any built-in call by anyone on any shard (all 23 functions, failed calls
  rolled back), and the delivery of a hand-over message at the shard of its destination.  Invariant: the create authority of
  the token is at exactly one place — one account that lists the role exactly once, or one message in flight, or nowhere —
  and every issued nonce is at most the counter stored at that place.  Hence the issued nonces are strictly increasing over
  the whole history, across any number of hand-overs.
-/
import Proofs.NonceHistory
import Proofs.Sizes
import Proofs.Hex
namespace Esdt

/-! ### role lists -/

theorem rolesOK_of_length (r : List Bytes) (h : (encRoles r).length < two63) : RolesOK r := by
  induction r with
  | nil => intro x hx; cases hx
  | cons a r ih =>
    have e : encRoles (a :: r) = encLenDelim 0x0a a ++ encRoles r := by simp [encRoles]
    rw [e, List.length_append] at h
    have := encLenDelim_length 0x0a a
    intro x hx
    rcases List.mem_cons.mp hx with rfl | hx
    · omega
    · exact ih (by omega) x hx

/-- a role list that passed the marshal guard reads back as itself -/
theorem rolesOf_encRoles (r : List Bytes) (h : (encRoles r).length < two63) : rolesOf (encRoles r) = some r := by
  unfold rolesOf
  split
  · rename_i he
    have := encRoles_length r
    rw [he] at this
    have : r = [] := List.eq_nil_of_length_eq_zero (by simpa using this)
    rw [this]
  · exact decRoles_encRoles r (rolesOK_of_length r h)

theorem spec_saveRoles_len (a k : Bytes) (r : List Bytes) (c : Ctx) :
    Post (saveRoles a k r) c (fun _ c' => c'.accts = c.accts.write a k (encRoles r) ∧ (encRoles r).length < two63) := by
  unfold saveRoles marshalRoles
  apply Post.bind
  apply Post.bind
  apply Post.mono (RO.tick .m c)
  intro _ c1 h1
  split
  · rename_i hl
    apply Post.pure
    apply Post.mono (spec_writeKey a k _ c1)
    intro _ c2 h2
    exact ⟨by rw [h2, h1], hl⟩
  · exact Post.fail

/-- how many times the create role is listed for (a, tok) -/
def crCnt (A : Accts) (a tok : Bytes) : Nat :=
  match rolesOf (A.read a (roleKeyPrefix ++ tok)) with
  | some r => r.count roleNFTCreate
  | none => 0

theorem crCnt_of_roles {A : Accts} {a tok : Bytes} {r : List Bytes}
    (h : rolesOf (A.read a (roleKeyPrefix ++ tok)) = some r) : crCnt A a tok = r.count roleNFTCreate := by
  simp [crCnt, h]

theorem hasRole_crCnt {A : Accts} {a tok : Bytes} (h : HasRole A a tok roleNFTCreate) : 0 < crCnt A a tok := by
  obtain ⟨hne, roles, hd, hm⟩ := h
  have : rolesOf (A.read a (roleKeyPrefix ++ tok)) = some roles := by simp [rolesOf, hne, hd]
  rw [crCnt_of_roles this]
  exact List.count_pos_iff.mpr hm

theorem crCnt_congr {A A' : Accts} {a tok : Bytes}
    (h : A'.read a (roleKeyPrefix ++ tok) = A.read a (roleKeyPrefix ++ tok)) : crCnt A' a tok = crCnt A a tok := by
  simp [crCnt, h]

theorem ctr_congr {A A' : Accts} {a tok : Bytes}
    (h : A'.read a (nonceKeyPrefix ++ tok) = A.read a (nonceKeyPrefix ++ tok)) : ctr A' a tok = ctr A a tok := by
  simp [ctr, h]

theorem count_deleteRoles_other (del roles : List Bytes) (h : roleNFTCreate ∉ del) :
    (deleteRoles roles del).count roleNFTCreate = roles.count roleNFTCreate := by
  unfold deleteRoles
  induction del generalizing roles with
  | nil => rfl
  | cons d del ih =>
    simp only [List.foldl_cons]
    rw [ih _ (fun hm => h (List.mem_cons_of_mem _ hm))]
    have hne : d ≠ roleNFTCreate := fun e => h (by rw [e]; exact List.mem_cons_self)
    rw [List.count_erase_of_ne hne.symm]

theorem count_deleteRoles_create (roles : List Bytes) :
    (deleteRoles roles [roleNFTCreate]).count roleNFTCreate = roles.count roleNFTCreate - 1 := by
  simp [deleteRoles, List.count_erase_self]

/-! ### exact effects -/

/-- ESDTSetRole / ESDTUnSetRole: the role list of (destination, token) is extended by / stripped of the given roles -/
theorem esdtRoles_effect (set : Bool) (env : Env) (c : Call) (ctx : Ctx) :
    Post (esdtRoles set env c) ctx (fun _ ctx' => ∃ tok' roles, c.args[0]? = some tok' ∧
      rolesOf (ctx.accts.read c.rcv (roleKeyPrefix ++ tok')) = some roles ∧
      ctx'.accts = ctx.accts.write c.rcv (roleKeyPrefix ++ tok')
        (encRoles (if set then roles ++ c.args.drop 1 else deleteRoles roles (c.args.drop 1))) ∧
      (encRoles (if set then roles ++ c.args.drop 1 else deleteRoles roles (c.args.drop 1))).length < two63) := by
  unfold esdtRoles checkBasic
  xsteps
  apply Post.mono (spec_getRoles _ _ ctx)
  intro r c1 ⟨h1, hr⟩
  obtain ⟨roles, isNew⟩ := r
  simp only at hr ⊢
  xsteps
  apply Post.mono (spec_saveRoles_len _ _ _ c1)
  intro _ c2 ⟨h2, hl⟩
  apply Post.pure
  exact ⟨_, roles, ‹c.args[0]? = some _›, hr, by rw [h2, h1], hl⟩

/-- hand-over at the current holder, next holder on another shard -/
theorem handover_current_x (env : Env) (c : Call) (ctx : Ctx) (hsys : c.caller = esdtSCAddress) :
    Post (esdtNFTCreateRoleTransfer env c) ctx (fun out ctx' => ∃ tok dest roles,
      c.args = [tok, dest] ∧ rolesOf (ctx.accts.read c.rcv (roleKeyPrefix ++ tok)) = some roles ∧
      (shardOf env.nshards dest ≠ env.self →
        ctx'.accts = (ctx.accts.write c.rcv (nonceKeyPrefix ++ tok) (beBytes 0)).write c.rcv (roleKeyPrefix ++ tok)
          (encRoles (deleteRoles roles [roleNFTCreate])) ∧
        (encRoles (deleteRoles roles [roleNFTCreate])).length < two63) ∧
      (shardOf env.nshards dest = env.self → ∃ A3 roles2,
        A3 = (((ctx.accts.write c.rcv (nonceKeyPrefix ++ tok) (beBytes 0)).write c.rcv (roleKeyPrefix ++ tok)
          (encRoles (deleteRoles roles [roleNFTCreate]))).write dest (nonceKeyPrefix ++ tok)
            (beBytes (ctr ctx.accts c.rcv tok))) ∧
        (encRoles (deleteRoles roles [roleNFTCreate])).length < two63 ∧
        rolesOf (A3.read dest (roleKeyPrefix ++ tok)) = some roles2 ∧
        (roles2.contains roleNFTCreate = true → ctx'.accts = A3) ∧
        (roles2.contains roleNFTCreate = false →
          ctx'.accts = A3.write dest (roleKeyPrefix ++ tok) (encRoles (roles2 ++ [roleNFTCreate])) ∧
          (encRoles (roles2 ++ [roleNFTCreate])).length < two63)) ∧
      ∃ tr, out.outAccts = [{ addr := dest, balance := some 0, delta := some 0, transfers := [tr] }] ∧
        tr.data = encodeCall fnESDTNFTCreateRoleTransfer [tok, beBytes (ctr ctx.accts c.rcv tok)]) := by
  unfold esdtNFTCreateRoleTransfer checkBasic
  simp only [hsys, if_true]
  xsteps
  apply Post.mono (spec_getLatestNonce _ _ ctx)
  intro n c1 ⟨h1, hn⟩
  xsteps
  apply Post.mono (spec_saveLatestNonce _ _ _ c1)
  intro _ c2 h2
  xsteps
  apply Post.mono (spec_getRoles _ _ c2)
  intro r c3 ⟨h3, hr⟩
  obtain ⟨roles, isNew⟩ := r
  simp only at hr ⊢
  xsteps
  apply Post.mono (spec_saveRoles_len _ _ _ c3)
  intro _ c4 ⟨h4, hl⟩
  have hargs := args_eq_pair c.args _ _ (by simpa using ‹decide (c.args.length ≠ 2) = false›)
    ‹c.args[0]? = some _› ‹c.args[1]? = some _›
  have hroles := hr
  rw [h2, h1, Accts.read_write, if_neg (fun h => role_ne_nonce _ _ h.2.symm)] at hroles
  xsteps
  split
  · rename_i hsame
    xsteps
    apply Post.mono (RO.tick .l c4)
    intro _ c5 h5
    xsteps
    apply Post.mono (spec_saveLatestNonce _ _ _ c5)
    intro _ c6 h6
    unfold addCreateRole
    xsteps
    apply Post.mono (spec_getRoles _ _ c6)
    intro r2 c7 ⟨h7, hr2⟩
    obtain ⟨roles2, isNew2⟩ := r2
    simp only at hr2 ⊢
    have hA3 := h6
    rw [h5, h4, h3, h2, h1] at hA3
    have hn' := hn
    change n = ctr ctx.accts c.rcv _ at hn'
    split
    · rename_i hhas
      apply Post.pure
      xsteps
      apply Post.mono (RO.tick .s c7)
      intro _ c8 h8
      repeat' (first | xstep | apply Post.pure)
      refine ⟨_, _, roles, hargs, hroles, fun hne => absurd hsame hne, fun _ => ⟨_, roles2, rfl, hl, ?_, ?_, ?_⟩, _, rfl,
        by rw [hn']⟩
      · rw [← hn', ← hA3]; exact hr2
      · intro _; rw [h8, h7, hA3, hn']
      · intro hf; rw [hhas] at hf; cases hf
    · rename_i hhas
      xsteps
      apply Post.mono (spec_saveRoles_len _ _ _ c7)
      intro _ c8 ⟨h8, hl8⟩
      xsteps
      apply Post.mono (RO.tick .s c8)
      intro _ c9 h9
      repeat' (first | xstep | apply Post.pure)
      refine ⟨_, _, roles, hargs, hroles, fun hne => absurd hsame hne, fun _ => ⟨_, roles2, rfl, hl, ?_, ?_, ?_⟩, _, rfl,
        by rw [hn']⟩
      · rw [← hn', ← hA3]; exact hr2
      · intro ht; exact absurd ht hhas
      · intro _; exact ⟨by rw [h9, h8, h7, hA3, hn'], hl8⟩
  · rename_i hdiff
    repeat' (first | xstep | apply Post.pure)
    exact ⟨_, _, roles, hargs, hroles, fun _ => ⟨by rw [h4, h3, h2, h1], hl⟩, fun h => absurd h hdiff, _, rfl,
      by rw [hn]; rfl⟩

/-- hand-over, delivery at the next holder -/
theorem handover_next_x (env : Env) (c : Call) (ctx : Ctx) (hsys : c.caller ≠ esdtSCAddress) :
    Post (esdtNFTCreateRoleTransfer env c) ctx (fun _ ctx' => ∃ tok nb roles,
      c.args = [tok, nb] ∧ rolesOf (ctx.accts.read c.rcv (roleKeyPrefix ++ tok)) = some roles ∧
      (roles.contains roleNFTCreate = true →
        ctx'.accts = ctx.accts.write c.rcv (nonceKeyPrefix ++ tok) (beBytes (u64 (beNat nb)))) ∧
      (roles.contains roleNFTCreate = false →
        ctx'.accts = (ctx.accts.write c.rcv (nonceKeyPrefix ++ tok) (beBytes (u64 (beNat nb)))).write c.rcv
          (roleKeyPrefix ++ tok) (encRoles (roles ++ [roleNFTCreate])) ∧
        (encRoles (roles ++ [roleNFTCreate])).length < two63)) := by
  unfold esdtNFTCreateRoleTransfer checkBasic
  simp only [hsys, if_false]
  xsteps
  apply Post.mono (spec_saveLatestNonce _ _ _ ctx)
  intro _ c1 h1
  unfold addCreateRole
  xsteps
  apply Post.mono (spec_getRoles _ _ c1)
  intro r c2 ⟨h2, hr⟩
  obtain ⟨roles, isNew⟩ := r
  simp only at hr ⊢
  have hargs := args_eq_pair c.args _ _ (by simpa using ‹decide (c.args.length ≠ 2) = false›)
    ‹c.args[0]? = some _› ‹c.args[1]? = some _›
  have hroles := hr
  rw [h1, Accts.read_write, if_neg (fun h => role_ne_nonce _ _ h.2.symm)] at hroles
  split
  · rename_i hhas
    repeat' (first | xstep | apply Post.pure)
    refine ⟨_, _, roles, hargs, hroles, fun _ => by rw [h2, h1], fun hf => ?_⟩
    rw [hhas] at hf; cases hf
  · rename_i hhas
    xsteps
    apply Post.mono (spec_saveRoles_len _ _ _ c2)
    intro _ c3 ⟨h3, hl⟩
    repeat' (first | xstep | apply Post.pure)
    refine ⟨_, _, roles, hargs, hroles, fun ht => absurd ht hhas, fun _ => ⟨by rw [h3, h2, h1], hl⟩⟩

end Esdt

namespace Esdt

/-! ### the world -/

structure HMsg where
  prev : Bytes
  dest : Bytes
  nb : Bytes

structure CWorld where
  shards : List Accts
  flight : List HMsg
  /-- ghost: every nonce a successful ESDTNFTCreate of the token returned, newest first -/
  issued : List Nat

inductive CStep
  | call (s : Nat) (f : FnId) (c : Call)
  | deliver (i : Nat)

/-- the hand-over message a successful call leaves for another shard, read off its output transfer -/
def hmsgOf (e : Env) (s : Nat) (tok : Bytes) (f : FnId) (c : Call) (out : VMOutput) : List HMsg :=
  if f == .nftCreateRoleTransfer && c.args[0]? == some tok then
    match out.outAccts with
    | [oa] =>
      -- a transfer to the executing shard itself is not a message: the call has already done both halves, and its
      -- delivery would be refused anyway (`same_shard_message_dead`)
      if shardOf e.nshards oa.addr = s then []
      else
        match oa.transfers with
        | [tr] =>
          match parseCall tr.data with
          | .ok (_, [_, nb]) => [{ prev := c.rcv, dest := oa.addr, nb := nb }]
          | _ => []
        | _ => []
    | _ => []
  else []

def deliverCall (tok : Bytes) (m : HMsg) : Call :=
  { fn := fnESDTNFTCreateRoleTransfer, caller := m.prev, rcv := m.dest, args := [tok, m.nb] }

def cstep (e : Env) (tok : Bytes) (w : CWorld) : CStep → CWorld
  | .call s f c =>
    match w.shards[s]? with
    | none => w
    | some A =>
      match exec { e with self := s } f c { accts := A } with
      | .ok (out, ctx') =>
        { shards := w.shards.set s ctx'.accts,
          flight := w.flight ++ hmsgOf e s tok f c out,
          issued := if f == .nftCreate && c.args[0]? == some tok then nonceOfRet out :: w.issued else w.issued }
      | _ => w
  | .deliver i =>
    match w.flight[i]? with
    | none => w
    | some m =>
      match w.shards[shardOf e.nshards m.dest]? with
      | none => w
      | some A =>
        match exec { e with self := shardOf e.nshards m.dest } .nftCreateRoleTransfer (deliverCall tok m) { accts := A } with
        | .ok (_, ctx') =>
          { shards := w.shards.set (shardOf e.nshards m.dest) ctx'.accts, flight := w.flight.eraseIdx i, issued := w.issued }
        | _ => w

def crun (e : Env) (tok : Bytes) : List CStep → CWorld → CWorld
  | [], w => w
  | st :: rest, w => crun e tok rest (cstep e tok w st)

/-- where the create authority of `tok` is -/
inductive Loc (e : Env) (tok : Bytes) (w : CWorld) : Prop
  | held (s : Nat) (h : Bytes) (A : Accts) :
      w.shards[s]? = some A → crCnt A h tok = 1 →
      (∀ (s' : Nat) (A' : Accts) (a : Bytes), w.shards[s']? = some A' → ¬ (s' = s ∧ a = h) → crCnt A' a tok = 0) →
      w.flight = [] → (∀ n ∈ w.issued, n ≤ ctr A h tok) → Loc e tok w
  | flying (m : HMsg) :
      w.flight = [m] → (∀ (s' : Nat) (A' : Accts) (a : Bytes), w.shards[s']? = some A' → crCnt A' a tok = 0) →
      (∀ n ∈ w.issued, n ≤ u64 (beNat m.nb)) →
      m.prev ≠ esdtSCAddress → present e.nshards (shardOf e.nshards m.dest) m.prev = false → Loc e tok w
  | nowhere :
      w.flight = [] → (∀ (s' : Nat) (A' : Accts) (a : Bytes), w.shards[s']? = some A' → crCnt A' a tok = 0) → Loc e tok w

structure CInv (e : Env) (tok : Bytes) (w : CWorld) : Prop where
  loc : Loc e tok w
  sorted : w.issued.Pairwise (· > ·)

/-- what the environment is assumed to respect (single-creator discipline, DESIGN App. C) -/
def CStepOK (e : Env) (tok : Bytes) (w : CWorld) : CStep → Prop
  | .call s f c =>
    -- a transaction runs where its sender lives; the only foreign caller is the system contract
    (c.caller = esdtSCAddress ∨ present e.nshards s c.caller = true) ∧
    -- the create role of `tok` is never passed to ESDTSetRole / ESDTUnSetRole: it moves by hand-over only
    ((f = .setRole ∨ f = .unSetRole) → c.args[0]? = some tok → roleNFTCreate ∉ c.args.drop 1) ∧
    -- a hand-over of `tok` is issued at its current holder (next holder on any shard); other hand-overs do not mention `tok`
    (f = .nftCreateRoleTransfer → c.caller = esdtSCAddress →
      tok ∉ c.args ∨ (∃ dest A, c.args = [tok, dest] ∧ w.shards[s]? = some A ∧ crCnt A c.rcv tok = 1 ∧
        c.rcv ≠ systemAccountAddress)) ∧
    -- 2^64 creates do not happen
    (∀ A, w.shards[s]? = some A → ctr A c.caller tok + 1 < 2 ^ 64)
  | .deliver _ => True

def CStepsOK (e : Env) (tok : Bytes) : List CStep → CWorld → Prop
  | [], _ => True
  | st :: rest, w => CStepOK e tok w st ∧ CStepsOK e tok rest (cstep e tok w st)

theorem getElem?_set_of {α} {l : List α} {i : Nat} {a : α} (h : l[i]? = some a) (b : α) (j : Nat) :
    (l.set i b)[j]? = if j = i then some b else l[j]? := by
  rw [List.getElem?_set]
  have hi : i < l.length := by
    rcases Nat.lt_or_ge i l.length with h' | h'
    · exact h'
    · rw [List.getElem?_eq_none h'] at h; cases h
  by_cases hj : j = i
  · subst hj; simp [hi]
  · have : ¬ i = j := fun e => hj e.symm
    simp [hj, this]

/-- replacing shard `s`: the accounts selected by `P'` list no create role afterwards if off `s` they were selected by `P`
    before, and on `s` the new state lists none for them -/
theorem noRole_set {tok : Bytes} {S : List Accts} {s : Nat} {A A' : Accts} (hs : S[s]? = some A) {P P' : Nat → Bytes → Prop}
    (ho : ∀ (s' : Nat) (A2 : Accts) (a : Bytes), S[s']? = some A2 → P s' a → crCnt A2 a tok = 0)
    (hoff : ∀ s' a, s' ≠ s → P' s' a → P s' a) (hon : ∀ a, P' s a → crCnt A' a tok = 0) :
    ∀ (s' : Nat) (A2 : Accts) (a : Bytes), (S.set s A')[s']? = some A2 → P' s' a → crCnt A2 a tok = 0 := by
  intro s' A2 a hs' hp
  rw [getElem?_set_of hs] at hs'
  by_cases h0 : s' = s
  · rw [if_pos h0] at hs'; cases hs'; exact hon a (h0 ▸ hp)
  · rw [if_neg h0] at hs'; exact ho s' A2 a hs' (hoff s' a h0 hp)

/-- … and nobody lists it afterwards if off `s` everybody was selected by `P`, and on `s` the new state lists none -/
theorem noRole_set_all {tok : Bytes} {S : List Accts} {s : Nat} {A A' : Accts} (hs : S[s]? = some A) {P : Nat → Bytes → Prop}
    (ho : ∀ (s' : Nat) (A2 : Accts) (a : Bytes), S[s']? = some A2 → P s' a → crCnt A2 a tok = 0)
    (hoff : ∀ s' a, s' ≠ s → P s' a) (hon : ∀ a, crCnt A' a tok = 0) :
    ∀ (s' : Nat) (A2 : Accts) (a : Bytes), (S.set s A')[s']? = some A2 → crCnt A2 a tok = 0 :=
  fun s' A2 a hs' => noRole_set hs (P' := fun _ _ => True) ho (fun s' a h0 _ => hoff s' a h0) (fun a _ => hon a) s' A2 a hs'
    trivial

/-- a step on shard `s0` that leaves every create-role count and every counter of `tok` as it was keeps the location -/
theorem loc_unchanged (e : Env) (tok : Bytes) (w : CWorld) (s0 : Nat) (A A' : Accts) (hs : w.shards[s0]? = some A)
    (hc : ∀ a, crCnt A' a tok = crCnt A a tok) (hn : ∀ a, ctr A' a tok = ctr A a tok)
    (hl : Loc e tok w) : Loc e tok { w with shards := w.shards.set s0 A' } := by
  cases hl with
  | held s h Ah hsh hc1 ho hfl hiss =>
    have ho' := noRole_set hs ho (fun _ _ _ hp => hp) (fun a hp => by rw [hc]; exact ho s0 A a hs hp)
    by_cases h0 : s = s0
    · subst h0
      rw [hs] at hsh; cases hsh
      exact Loc.held s h A' (by simp [getElem?_set_of hs]) (by rw [hc]; exact hc1) ho' hfl
        (by intro n hn'; rw [hn]; exact hiss n hn')
    · exact Loc.held s h Ah (by simp only [getElem?_set_of hs, h0, if_false]; exact hsh) hc1 ho' hfl hiss
  | flying m hfl ho hiss hp hpr =>
    exact Loc.flying m hfl (noRole_set_all hs (P := fun _ _ => True) (fun s' A2 a h _ => ho s' A2 a h)
      (fun _ _ _ => trivial) (fun a => by rw [hc]; exact ho s0 A a hs)) hiss hp hpr
  | nowhere hfl ho =>
    exact Loc.nowhere hfl (noRole_set_all hs (P := fun _ _ => True) (fun s' A2 a h _ => ho s' A2 a h)
      (fun _ _ _ => trivial) (fun a => by rw [hc]; exact ho s0 A a hs))

end Esdt

namespace Esdt

/-! ### counts and counters across writes -/

theorem crCnt_write_role (A : Accts) (a t : Bytes) (r : List Bytes) (hl : (encRoles r).length < two63) (a' t' : Bytes) :
    crCnt (A.write a (roleKeyPrefix ++ t) (encRoles r)) a' t' =
      if a = a' ∧ t = t' then r.count roleNFTCreate else crCnt A a' t' := by
  by_cases h : a = a' ∧ t = t'
  · obtain ⟨rfl, rfl⟩ := h
    rw [if_pos ⟨rfl, rfl⟩]
    apply crCnt_of_roles
    rw [Accts.read_write, if_pos ⟨rfl, rfl⟩]
    exact rolesOf_encRoles _ hl
  · rw [if_neg h]
    apply crCnt_congr
    rw [Accts.read_write, if_neg (fun hh => h ⟨hh.1, List.append_cancel_left hh.2⟩)]

theorem crCnt_write_nonce (A : Accts) (a t v a' t' : Bytes) :
    crCnt (A.write a (nonceKeyPrefix ++ t) v) a' t' = crCnt A a' t' := by
  apply crCnt_congr
  rw [Accts.read_write, if_neg (fun h => role_ne_nonce _ _ h.2.symm)]

theorem ctr_write_role (A : Accts) (a t v a' t' : Bytes) :
    ctr (A.write a (roleKeyPrefix ++ t) v) a' t' = ctr A a' t' := by
  apply ctr_congr
  rw [Accts.read_write, if_neg (fun h => role_ne_nonce _ _ h.2)]

theorem ctr_write_nonce (A : Accts) (a t : Bytes) (n : Nat) (hn : n < two64) (a' t' : Bytes) :
    ctr (A.write a (nonceKeyPrefix ++ t) (beBytes n)) a' t' = if a = a' ∧ t = t' then n else ctr A a' t' := by
  by_cases h : a = a' ∧ t = t'
  · obtain ⟨rfl, rfl⟩ := h
    rw [if_pos ⟨rfl, rfl⟩]
    unfold ctr
    rw [Accts.read_write, if_pos ⟨rfl, rfl⟩]
    exact counterOf_beBytes n hn
  · rw [if_neg h]
    apply ctr_congr
    rw [Accts.read_write, if_neg (fun hh => h ⟨hh.1, List.append_cancel_left hh.2⟩)]

/-! ### the two halves of a hand-over -/

/-- the old holder stripped of the create role: on a shard where only `h` lists it, once, nobody does afterwards -/
theorem stripped {tok h : Bytes} {A : Accts} {roles : List Bytes} (v : Bytes)
    (hroles : rolesOf (A.read h (roleKeyPrefix ++ tok)) = some roles) (hc : crCnt A h tok = 1)
    (ho : ∀ a, a ≠ h → crCnt A a tok = 0) (hl : (encRoles (deleteRoles roles [roleNFTCreate])).length < two63) (a : Bytes) :
    crCnt ((A.write h (nonceKeyPrefix ++ tok) v).write h (roleKeyPrefix ++ tok)
      (encRoles (deleteRoles roles [roleNFTCreate]))) a tok = 0 := by
  rw [crCnt_write_role _ _ _ _ hl, crCnt_write_nonce]
  split
  · rw [count_deleteRoles_create, ← crCnt_of_roles hroles, hc]
  · rename_i hne; exact ho a (fun h' => hne ⟨h'.symm, rfl⟩)

/-- the create role lands at `dest` with counter `n` on a shard where nobody lists it: afterwards exactly `dest` lists it,
    once, and `dest`'s counter is `n` -/
theorem landed {tok dest : Bytes} {n : Nat} {A A' : Accts} {roles : List Bytes} (hn : n < two64)
    (hz : ∀ a, crCnt A a tok = 0)
    (hroles : rolesOf ((A.write dest (nonceKeyPrefix ++ tok) (beBytes n)).read dest (roleKeyPrefix ++ tok)) = some roles)
    (hno : roles.contains roleNFTCreate = false →
      A' = (A.write dest (nonceKeyPrefix ++ tok) (beBytes n)).write dest (roleKeyPrefix ++ tok)
        (encRoles (roles ++ [roleNFTCreate])) ∧ (encRoles (roles ++ [roleNFTCreate])).length < two63) :
    (∀ a, crCnt A' a tok = if a = dest then 1 else 0) ∧ ctr A' dest tok = n := by
  have hz' : roles.count roleNFTCreate = 0 := by
    rw [← crCnt_of_roles hroles, crCnt_write_nonce]; exact hz dest
  obtain ⟨hw, hl⟩ := hno (by simpa using List.count_eq_zero.mp hz')
  refine ⟨fun a => ?_, by rw [hw, ctr_write_role, ctr_write_nonce _ _ _ _ hn, if_pos ⟨rfl, rfl⟩]⟩
  rw [hw, crCnt_write_role _ _ _ _ hl, crCnt_write_nonce]
  by_cases ha : a = dest
  · rw [if_pos ⟨ha.symm, rfl⟩, if_pos ha, List.count_append, hz']; rfl
  · rw [if_neg (fun h => ha h.1.symm), if_neg ha]; exact hz a

/-! ### one step -/

/-- set-role / unset-role under the discipline leave every create-role count of `tok` as it was -/
theorem setRole_crCnt (set : Bool) (env : Env) (c : Call) (A : Accts) (out : VMOutput) (ctx' : Ctx) (tok : Bytes)
    (he : esdtRoles set env c { accts := A } = .ok (out, ctx'))
    (hd : c.args[0]? = some tok → roleNFTCreate ∉ c.args.drop 1) (a : Bytes) :
    crCnt ctx'.accts a tok = crCnt A a tok := by
  obtain ⟨tok', roles, h0, hroles, hw, hl⟩ := (esdtRoles_effect set env c { accts := A }).elim he
  simp only at hroles hw
  by_cases hk : c.rcv = a ∧ roleKeyPrefix ++ tok' = roleKeyPrefix ++ tok
  · obtain ⟨ha, hk⟩ := hk
    have ht : tok' = tok := List.append_cancel_left hk
    subst ht; subst ha
    have hnot := hd h0
    have hread : rolesOf (ctx'.accts.read c.rcv (roleKeyPrefix ++ tok')) =
        some (if set then roles ++ c.args.drop 1 else deleteRoles roles (c.args.drop 1)) := by
      rw [hw, Accts.read_write, if_pos ⟨rfl, rfl⟩]; exact rolesOf_encRoles _ hl
    rw [crCnt_of_roles hread, crCnt_of_roles hroles]
    cases set
    · simp only [Bool.false_eq_true, if_false]; exact count_deleteRoles_other _ _ hnot
    · simp only [if_true]; rw [List.count_append, List.count_eq_zero.mpr hnot]; rfl
  · apply crCnt_congr; rw [hw, Accts.read_write, if_neg hk]

/-- a hand-over that does not mention `tok` leaves its role lists and counters as they were -/
theorem handover_other (env : Env) (c : Call) (A : Accts) (out : VMOutput) (ctx' : Ctx) (tok : Bytes)
    (he : esdtNFTCreateRoleTransfer env c { accts := A } = .ok (out, ctx')) (hnot : tok ∉ c.args) (a : Bytes) :
    crCnt ctx'.accts a tok = crCnt A a tok ∧ ctr ctx'.accts a tok = ctr A a tok :=
  ⟨crCnt_congr (exec_read_eq (f := .nftCreateRoleTransfer) he (fun hw => hnot (wrKey_role hw.2).2)),
    ctr_congr (exec_read_eq (f := .nftCreateRoleTransfer) he (fun hw => hnot (wrKey_nonce hw.2).2))⟩

theorem hmsgOf_nil_of_ne (e : Env) (s : Nat) (tok : Bytes) (f : FnId) (c : Call) (out : VMOutput)
    (h : f ≠ .nftCreateRoleTransfer) : hmsgOf e s tok f c out = [] := by
  unfold hmsgOf
  have : (f == FnId.nftCreateRoleTransfer) = false := by cases f <;> first | rfl | exact absurd rfl h
  simp [this]

theorem hmsgOf_nil_of_notin (e : Env) (s : Nat) (tok : Bytes) (f : FnId) (c : Call) (out : VMOutput)
    (h : tok ∉ c.args) : hmsgOf e s tok f c out = [] := by
  unfold hmsgOf
  have : (c.args[0]? == some tok) = false := by
    cases hc : c.args with
    | nil => simp
    | cons x xs =>
      rw [hc] at h
      have : x ≠ tok := fun e => h (by rw [e]; exact List.mem_cons_self)
      simp [this]
  simp [this]

end Esdt

namespace Esdt

theorem ctr_lt (A : Accts) (a tok : Bytes) : ctr A a tok < two64 := by
  unfold ctr counterOf
  split
  · decide
  · exact u64_lt _

theorem present_false_of (n s s' : Nat) (a : Bytes) (ha : a ≠ systemAccountAddress) (hp : present n s a = true)
    (hne : s' ≠ s) : present n s' a = false := by
  unfold present at *
  have h1 : (a == systemAccountAddress) = false := by simpa using ha
  rw [h1, Bool.false_or] at hp ⊢
  have : shardOf n a = s := by simpa using hp
  rw [this]
  simpa using fun e => hne e.symm

/-- a call step keeps the invariant -/
theorem cstep_call_inv (e : Env) (tok : Bytes) (w : CWorld) (s : Nat) (f : FnId) (c : Call) (hI : CInv e tok w)
    (hok : CStepOK e tok w (.call s f c)) : CInv e tok (cstep e tok w (.call s f c)) := by
  obtain ⟨hcaller, hD1, hD2, hwrap⟩ := hok
  simp only [cstep]
  cases hs : w.shards[s]? with
  | none => exact hI
  | some A =>
    simp only []
    cases he : exec { e with self := s } f c { accts := A } with
    | err _ => exact hI
    | panic => exact hI
    | ok p =>
      obtain ⟨out, ctx'⟩ := p
      simp only []
      have unchanged : (∀ a, crCnt ctx'.accts a tok = crCnt A a tok) → (∀ a, ctr ctx'.accts a tok = ctr A a tok) →
          hmsgOf e s tok f c out = [] → (f == .nftCreate && c.args[0]? == some tok) = false →
          CInv e tok { shards := w.shards.set s ctx'.accts, flight := w.flight ++ hmsgOf e s tok f c out,
                       issued := if (f == .nftCreate && c.args[0]? == some tok) = true then nonceOfRet out :: w.issued
                                 else w.issued } := by
        intro hc hn hm hcr
        rw [hm, hcr]
        simp only [List.append_nil, Bool.false_eq_true, if_false]
        exact ⟨loc_unchanged e tok w s A ctx'.accts hs hc hn hI.loc, hI.sorted⟩
      by_cases hho : f = .nftCreateRoleTransfer
      · subst hho
        have he' : esdtNFTCreateRoleTransfer { e with self := s } c { accts := A } = .ok (out, ctx') := by
          unfold exec at he; simpa [runFn] using he
        have hg := (handover_guard { e with self := s } c { accts := A }).elim he'
        simp only at hg
        by_cases hsys : c.caller = esdtSCAddress
        · rcases hD2 rfl hsys with hnot | ⟨dest, A2, hargs, hs2, hcnt, hnsys⟩
          · exact unchanged (fun a => (handover_other _ c A out ctx' tok he' hnot a).1)
              (fun a => (handover_other _ c A out ctx' tok he' hnot a).2) (hmsgOf_nil_of_notin _ _ _ _ _ _ hnot) rfl
          · rw [hs] at hs2; cases hs2
            obtain ⟨tok1, dest1, roles, hargs1, hroles, hx, hx2, tr, hout, hdata⟩ :=
              (handover_current_x { e with self := s } c { accts := A } hsys).elim he'
            rw [hargs] at hargs1
            injection hargs1 with e1 e2
            injection e2 with e2 _
            subst e1; subst e2
            simp only at hroles hx hx2 hdata
            have hrcv : c.rcv ≠ esdtSCAddress := by
              intro e; rw [e, ← hsys, hg.1] at hg; cases hg.2.1
            cases hI.loc with
            | flying m hfl ho _ _ _ => have := ho s A c.rcv hs; omega
            | nowhere hfl ho => have := ho s A c.rcv hs; omega
            | held s1 h Ah hsh hc1 ho hfl hiss =>
              have hsame : s = s1 ∧ c.rcv = h := by
                apply Classical.byContradiction
                intro hne
                have := ho s A c.rcv hs hne
                omega
              obtain ⟨rfl, rfl⟩ := hsame
              rw [hs] at hsh; cases hsh
              have hoA : ∀ a, a ≠ c.rcv → crCnt A a tok = 0 := fun a ha => ho s A a hs (fun h => ha h.2)
              by_cases hshard : shardOf e.nshards dest = s
              · -- next holder on the same shard: the call does both halves
                obtain ⟨A3, roles2, hA3, hl, hr2, _, hno⟩ := hx2 hshard
                subst hA3
                obtain ⟨hc, hctr⟩ := landed (ctr_lt A c.rcv tok) (stripped _ hroles hcnt hoA hl) hr2 hno
                have hmsg : hmsgOf e s tok .nftCreateRoleTransfer c out = [] := by
                  simp [hmsgOf, hargs, hout, hshard]
                rw [hmsg]
                simp only [List.append_nil]
                exact ⟨Loc.held s dest ctx'.accts (by simp [getElem?_set_of hs]) (by rw [hc, if_pos rfl])
                  (noRole_set hs ho (fun _ _ h0 _ h => h0 h.1) (fun a hp => by rw [hc, if_neg (fun h => hp ⟨rfl, h⟩)])) hfl
                  (fun n hn => by rw [hctr]; exact hiss n (by simpa using hn)), by simpa using hI.sorted⟩
              · -- next holder on another shard: strip here, ship the counter
                obtain ⟨hw, hl⟩ := hx hshard
                have hparse : parseCall tr.data = .ok (fnESDTNFTCreateRoleTransfer, [tok, beBytes (ctr A c.rcv tok)]) := by
                  rw [hdata, parseCall_encodeCall _ _ (by decide) (by decide)]
                have hmsg : hmsgOf e s tok .nftCreateRoleTransfer c out =
                    [{ prev := c.rcv, dest := dest, nb := beBytes (ctr A c.rcv tok) }] := by
                  simp [hmsgOf, hargs, hout, hparse, hshard]
                rw [hmsg]
                refine ⟨Loc.flying { prev := c.rcv, dest := dest, nb := beBytes (ctr A c.rcv tok) } (by simp [hfl])
                  (noRole_set_all hs ho (fun _ _ h0 h => h0 h.1) (fun a => by rw [hw]; exact stripped _ hroles hcnt hoA hl a))
                  ?_ hrcv (present_false_of _ s _ c.rcv hnsys hg.2.1 hshard), by simpa using hI.sorted⟩
                intro n hn
                simp only [beNat_beBytes, u64_of_lt _ (ctr_lt A c.rcv tok)]
                simpa using hiss n (by simpa using hn)
        · rcases hcaller with h | h
          · exact absurd h hsys
          · rw [hg.1] at h; cases h
      · have hm : hmsgOf e s tok f c out = [] := hmsgOf_nil_of_ne _ _ _ _ _ _ hho
        by_cases hsr : f = .setRole ∨ f = .unSetRole
        · have hcn : ∀ a, ctr ctx'.accts a tok = ctr A a tok := fun a =>
            ctr_congr (counters_only_through f ⟨by rcases hsr with rfl | rfl <;> decide, hho⟩ _ c _ ctx' out he a tok)
          have hcr : (f == .nftCreate && c.args[0]? == some tok) = false := by rcases hsr with rfl | rfl <;> rfl
          refine unchanged (fun a => ?_) hcn hm hcr
          rcases hsr with rfl | rfl
          · exact setRole_crCnt true _ c A out ctx' tok (by unfold exec at he; simpa [runFn] using he) (hD1 (Or.inl rfl)) a
          · exact setRole_crCnt false _ c A out ctx' tok (by unfold exec at he; simpa [runFn] using he) (hD1 (Or.inr rfl)) a
        · have hroles : ∀ a, crCnt ctx'.accts a tok = crCnt A a tok := fun a =>
            crCnt_congr (roles_only_through f ⟨fun h => hsr (Or.inl h), fun h => hsr (Or.inr h), hho⟩ _ c _ ctx' out he a tok)
          by_cases hcr : f = .nftCreate
          · subst hcr
            have he' : esdtNFTCreate { e with self := s } c { accts := A } = .ok (out, ctx') := by
              unfold exec at he; simpa [runFn] using he
            by_cases h0 : c.args[0]? = some tok
            · obtain ⟨tok1, h01, hrole⟩ := (gate_nftCreate { e with self := s } c { accts := A }).elim he'
              rw [h0] at h01; cases h01
              have hpos := hasRole_crCnt hrole
              simp only at hpos
              cases hI.loc with
              | held s1 h Ah hsh hc1 ho hfl hiss =>
                have hsame : s = s1 ∧ c.caller = h := by
                  apply Classical.byContradiction
                  intro hne
                  have := ho s A c.caller hs hne
                  omega
                obtain ⟨rfl, rfl⟩ := hsame
                rw [hs] at hsh; cases hsh
                have hstep := hstep_counter c.caller tok ⟨.nftCreate, { e with self := s }, c⟩ (fun h => by cases h) A out ctx' he
                  (hwrap A hs)
                have hisc : HStep.isCreate ⟨.nftCreate, { e with self := s }, c⟩ c.caller tok = true := by
                  simp [HStep.isCreate, h0]
                rcases hstep with ⟨hf, _⟩ | ⟨_, hinc, hret⟩
                · rw [hisc] at hf; cases hf
                · rw [hm]
                  have hcond : (FnId.nftCreate == FnId.nftCreate && c.args[0]? == some tok) = true := by simp [h0]
                  rw [hcond]
                  simp only [List.append_nil, if_true]
                  refine ⟨Loc.held s c.caller ctx'.accts (by simp [getElem?_set_of hs]) (by rw [hroles]; exact hc1)
                    (noRole_set hs ho (fun _ _ _ hp => hp) (fun a hp => by rw [hroles]; exact ho s A a hs hp)) hfl ?_, ?_⟩
                  · intro n hn
                    rcases List.mem_cons.mp hn with rfl | hn
                    · omega
                    · have := hiss n hn; omega
                  · refine List.pairwise_cons.mpr ⟨?_, hI.sorted⟩
                    intro n hn
                    have := hiss n hn
                    omega
              | flying m hfl ho _ _ _ => have := ho s A c.caller hs; omega
              | nowhere hfl ho => have := ho s A c.caller hs; omega
            · have hcond : (FnId.nftCreate == FnId.nftCreate && c.args[0]? == some tok) = false := by simp [h0]
              refine unchanged hroles (fun a => ?_) hm hcond
              by_cases ha : a = c.caller
              · subst ha
                rcases hstep_counter c.caller tok ⟨.nftCreate, { e with self := s }, c⟩ (fun h => by cases h) A out ctx' he
                  (hwrap A hs) with ⟨_, hsame⟩ | ⟨hf, _, _⟩
                · exact hsame
                · simp [HStep.isCreate, h0] at hf
              · exact ctr_congr (create_touches_only_own_counter _ c _ ctx' out he' a tok ha)
          · have hcond : (f == .nftCreate && c.args[0]? == some tok) = false := by
              have : (f == FnId.nftCreate) = false := by cases f <;> first | rfl | exact absurd rfl hcr
              simp [this]
            exact unchanged hroles
              (fun a => ctr_congr (counters_only_through f ⟨hcr, hho⟩ _ c _ ctx' out he a tok)) hm hcond

end Esdt

namespace Esdt

/-- delivering a hand-over message keeps the invariant -/
theorem cstep_deliver_inv (e : Env) (tok : Bytes) (w : CWorld) (i : Nat) (hI : CInv e tok w) :
    CInv e tok (cstep e tok w (.deliver i)) := by
  simp only [cstep]
  cases hm : w.flight[i]? with
  | none => exact hI
  | some m =>
    simp only []
    cases hs : w.shards[shardOf e.nshards m.dest]? with
    | none => exact hI
    | some A =>
      simp only []
      cases he : exec { e with self := shardOf e.nshards m.dest } .nftCreateRoleTransfer (deliverCall tok m)
          { accts := A } with
      | err _ => exact hI
      | panic => exact hI
      | ok p =>
        obtain ⟨out, ctx'⟩ := p
        simp only []
        cases hI.loc with
        | held s1 h Ah hsh hc1 ho hfl hiss => rw [hfl] at hm; simp at hm
        | nowhere hfl ho => rw [hfl] at hm; simp at hm
        | flying m0 hfl ho hiss hp hpr =>
          rw [hfl] at hm
          cases i with
          | succ j => simp at hm
          | zero =>
            simp only [List.getElem?_cons_zero, Option.some.injEq] at hm
            subst hm
            have he' : esdtNFTCreateRoleTransfer { e with self := shardOf e.nshards m0.dest } (deliverCall tok m0)
                { accts := A } = .ok (out, ctx') := by
              unfold exec at he; simpa [runFn] using he
            obtain ⟨tok1, nb1, roles, hargs, hroles, _, hno⟩ :=
              (handover_next_x _ (deliverCall tok m0) { accts := A } hp).elim he'
            simp only [deliverCall] at hargs hroles hno
            injection hargs with e1 e2
            injection e2 with e2 _
            subst e1; subst e2
            obtain ⟨hc, hctr⟩ := landed (u64_lt _) (fun a => ho _ A a hs)
              (by rw [Accts.read_write, if_neg (fun h => role_ne_nonce _ _ h.2.symm)]; exact hroles) hno
            exact ⟨Loc.held (shardOf e.nshards m0.dest) m0.dest ctx'.accts (by simp [getElem?_set_of hs])
              (by rw [hc, if_pos rfl])
              (noRole_set hs (P := fun _ _ => True) (fun s' A2 a h _ => ho s' A2 a h) (fun _ _ _ _ => trivial)
                (fun a hne => by rw [hc, if_neg (fun h => hne ⟨rfl, h⟩)]))
              (by simp [hfl]) (fun n hn => by rw [hctr]; exact hiss n hn), hI.sorted⟩

theorem cstep_inv (e : Env) (tok : Bytes) (w : CWorld) (st : CStep) (hI : CInv e tok w) (hok : CStepOK e tok w st) :
    CInv e tok (cstep e tok w st) := by
  cases st with
  | call s f c => exact cstep_call_inv e tok w s f c hI hok
  | deliver i => exact cstep_deliver_inv e tok w i hI

theorem crun_inv (e : Env) (tok : Bytes) : ∀ (steps : List CStep) (w : CWorld), CInv e tok w → CStepsOK e tok steps w →
    CInv e tok (crun e tok steps w)
  | [], _, hI, _ => hI
  | st :: rest, w, hI, hok => crun_inv e tok rest _ (cstep_inv e tok w st hI hok.1) hok.2

/-- the ghost list only grows, at its head -/
theorem cstep_issued_suffix (e : Env) (tok : Bytes) (w : CWorld) (st : CStep) :
    w.issued <:+ (cstep e tok w st).issued := by
  cases st with
  | call s f c =>
    simp only [cstep]
    split
    · exact List.suffix_refl _
    · split
      · simp only []
        split
        · exact List.suffix_cons _ _
        · exact List.suffix_refl _
      · exact List.suffix_refl _
  | deliver i =>
    simp only [cstep]
    split
    · exact List.suffix_refl _
    · split
      · exact List.suffix_refl _
      · split <;> exact List.suffix_refl _

end Esdt

namespace Esdt

/-! ### an executable form of the discipline (for non-vacuity examples) -/

def cstepOKb (e : Env) (tok : Bytes) (w : CWorld) : CStep → Bool
  | .call s f c =>
    decide (c.caller = esdtSCAddress ∨ present e.nshards s c.caller = true) &&
    decide ((f = .setRole ∨ f = .unSetRole) → c.args[0]? = some tok → roleNFTCreate ∉ c.args.drop 1) &&
    (decide (f = .nftCreateRoleTransfer → c.caller = esdtSCAddress → tok ∉ c.args) ||
      (match c.args, w.shards[s]? with
       | [t, dest], some A =>
         decide (t = tok ∧ crCnt A c.rcv tok = 1 ∧ c.rcv ≠ systemAccountAddress)
       | _, _ => false)) &&
    (match w.shards[s]? with
     | some A => decide (ctr A c.caller tok + 1 < 2 ^ 64)
     | none => true)
  | .deliver _ => true

theorem cstepOKb_sound (e : Env) (tok : Bytes) (w : CWorld) (st : CStep) (h : cstepOKb e tok w st = true) :
    CStepOK e tok w st := by
  cases st with
  | deliver i => trivial
  | call s f c =>
    simp only [cstepOKb, Bool.and_eq_true, Bool.or_eq_true, decide_eq_true_eq] at h
    obtain ⟨⟨⟨h1, h2⟩, h3⟩, h4⟩ := h
    refine ⟨h1, h2, ?_, ?_⟩
    · intro hf hs
      rcases h3 with h3 | h3
      · exact Or.inl (h3 hf hs)
      · right
        split at h3
        · rename_i t dest A hargs hsh
          simp only [decide_eq_true_eq] at h3
          exact ⟨dest, A, by rw [hargs, h3.1], hsh, h3.2.1, h3.2.2⟩
        · cases h3
    · intro A hA
      rw [hA] at h4
      simpa using h4

def cstepsOKb (e : Env) (tok : Bytes) : List CStep → CWorld → Bool
  | [], _ => true
  | st :: rest, w => cstepOKb e tok w st && cstepsOKb e tok rest (cstep e tok w st)

theorem cstepsOKb_sound (e : Env) (tok : Bytes) : ∀ (steps : List CStep) (w : CWorld),
    cstepsOKb e tok steps w = true → CStepsOK e tok steps w
  | [], _, _ => trivial
  | st :: rest, w, h => by
    simp only [cstepsOKb, Bool.and_eq_true] at h
    exact ⟨cstepOKb_sound e tok w st h.1, cstepsOKb_sound e tok rest _ h.2⟩

end Esdt

namespace Esdt

/-- why an output transfer to the executing shard itself is not a message of the world: delivered there with the old holder
    as caller it is refused, whatever the state (the sender account is local) -/
theorem same_shard_message_dead (e : Env) (tok : Bytes) (m : HMsg) (A : Accts) (out : VMOutput) (ctx' : Ctx)
    (hp : present e.nshards (shardOf e.nshards m.dest) m.prev = true) :
    exec { e with self := shardOf e.nshards m.dest } .nftCreateRoleTransfer (deliverCall tok m) { accts := A } ≠
      .ok (out, ctx') := by
  intro he
  have he' : esdtNFTCreateRoleTransfer { e with self := shardOf e.nshards m.dest } (deliverCall tok m) { accts := A } =
      .ok (out, ctx') := by
    unfold exec at he; simpa [runFn] using he
  have hg := (handover_guard _ _ _).elim he'
  simp only [deliverCall] at hg
  rw [hp] at hg
  cases hg.1

end Esdt
