/-
  Proofs/RolesNodup.lean — C15: "role lists hold no duplicates under system-contract discipline", over every function and
  every history. A role list changes only through ESDTSetRole (appends its arguments), ESDTUnSetRole (erases) and the
  create-role hand-over (erases the create role at the old holder, appends it at the new one only if absent); the
  discipline needed is exactly App. C E5: the system contract never sets a role the account already has, nor one twice.
-/
import Proofs.NetworkNonce
namespace Esdt

/-- every role list stored on the shard decodes to a list without duplicates -/
def RolesNodup (A : Accts) : Prop :=
  ∀ a tok roles, rolesOf (A.read a (roleKeyPrefix ++ tok)) = some roles → roles.Nodup

/-- the discipline of a set-role call: what it appends is new and itself free of duplicates -/
def SetRoleDisciplined (f : FnId) (c : Call) (A : Accts) : Prop :=
  f = .setRole → ∀ tok roles, c.args[0]? = some tok → rolesOf (A.read c.rcv (roleKeyPrefix ++ tok)) = some roles →
    (roles ++ c.args.drop 1).Nodup

theorem nodup_deleteRoles (roles del : List Bytes) (h : roles.Nodup) : (deleteRoles roles del).Nodup := by
  unfold deleteRoles
  induction del generalizing roles with
  | nil => simpa using h
  | cons d ds ih => simp only [List.foldl_cons]; exact ih _ (h.erase d)

theorem nodup_append_new (roles : List Bytes) (r : Bytes) (h : roles.Nodup) (hc : roles.contains r = false) :
    (roles ++ [r]).Nodup := by
  rw [List.nodup_append]
  refine ⟨h, by simp, ?_⟩
  intro a ha b hb
  simp only [List.mem_singleton] at hb
  subst hb
  intro he; subst he
  have : roles.contains a = true := List.contains_iff_mem.mpr ha
  rw [this] at hc; cases hc

/-- writing one role list that has no duplicates keeps the invariant -/
theorem RolesNodup.write_role {A : Accts} (h : RolesNodup A) (a1 tok1 : Bytes) (l : List Bytes) (hl : l.Nodup)
    (hlen : (encRoles l).length < two63) : RolesNodup (A.write a1 (roleKeyPrefix ++ tok1) (encRoles l)) := by
  intro a tok roles hr
  rw [Accts.read_write] at hr
  split at hr
  · rw [rolesOf_encRoles l hlen] at hr; cases hr; exact hl
  · exact h a tok roles hr

/-- a write under a key that is not a role key keeps it -/
theorem RolesNodup.write_nonce {A : Accts} (h : RolesNodup A) (a1 tok1 v : Bytes) :
    RolesNodup (A.write a1 (nonceKeyPrefix ++ tok1) v) := by
  intro a tok roles hr
  rw [Accts.read_write, if_neg (fun hh => role_ne_nonce tok tok1 hh.2.symm)] at hr
  exact h a tok roles hr

/-- every call of every function keeps "no duplicates" — given, for ESDTSetRole, the system contract's discipline -/
theorem roles_nodup_step (f : FnId) (env : Env) (c : Call) (A : Accts) (out : VMOutput) (ctx' : Ctx)
    (hI : RolesNodup A) (hd : SetRoleDisciplined f c A) (h : exec env f c { accts := A } = .ok (out, ctx')) :
    RolesNodup ctx'.accts := by
  by_cases hf : f ≠ .setRole ∧ f ≠ .unSetRole ∧ f ≠ .nftCreateRoleTransfer
  · intro a tok roles hr
    rw [roles_only_through f hf env c _ ctx' out h a tok] at hr
    exact hI a tok roles hr
  · have hcases : f = .setRole ∨ f = .unSetRole ∨ f = .nftCreateRoleTransfer := by
      by_cases h1 : f = .setRole
      · exact Or.inl h1
      · by_cases h2 : f = .unSetRole
        · exact Or.inr (Or.inl h2)
        · by_cases h3 : f = .nftCreateRoleTransfer
          · exact Or.inr (Or.inr h3)
          · exact absurd ⟨h1, h2, h3⟩ hf
    unfold exec at h
    rcases hcases with rfl | rfl | rfl <;> simp only [runFn] at h
    · obtain ⟨tok', roles, h0, hr, hw, hlen⟩ := (esdtRoles_effect true env c { accts := A }).elim h
      simp only [if_true] at hw hlen
      rw [hw]
      exact hI.write_role _ _ _ (hd rfl tok' roles h0 hr) hlen
    · obtain ⟨tok', roles, h0, hr, hw, hlen⟩ := (esdtRoles_effect false env c { accts := A }).elim h
      simp only [Bool.false_eq_true, if_false] at hw hlen
      rw [hw]
      exact hI.write_role _ _ _ (nodup_deleteRoles _ _ (hI _ _ _ hr)) hlen
    · by_cases hsys : c.caller = esdtSCAddress
      · obtain ⟨tok', dest, roles, _, hr, hx, hs, _⟩ := (handover_current_x env c { accts := A } hsys).elim h
        have hdel : (deleteRoles roles [roleNFTCreate]).Nodup := nodup_deleteRoles _ _ (hI _ _ _ hr)
        by_cases hsh : shardOf env.nshards dest = env.self
        · obtain ⟨A3, roles2, hA3, hlen, hr2, hin, hout⟩ := hs hsh
          have hI3 : RolesNodup A3 := by
            rw [hA3]
            exact ((hI.write_nonce _ _ _).write_role _ _ _ hdel hlen).write_nonce _ _ _
          cases hc : roles2.contains roleNFTCreate with
          | true => rw [hin hc]; exact hI3
          | false =>
            obtain ⟨hw, hlen2⟩ := hout hc
            rw [hw]
            exact hI3.write_role _ _ _ (nodup_append_new _ _ (hI3 _ _ _ hr2) hc) hlen2
        · obtain ⟨hw, hlen⟩ := hx hsh
          rw [hw]
          exact (hI.write_nonce _ _ _).write_role _ _ _ hdel hlen
      · obtain ⟨tok', nb, roles, _, hr, hin, hout⟩ := (handover_next_x env c { accts := A } hsys).elim h
        cases hc : roles.contains roleNFTCreate with
        | true => rw [hin hc]; exact hI.write_nonce _ _ _
        | false =>
          obtain ⟨hw, hlen⟩ := hout hc
          rw [hw]
          have hI1 := hI.write_nonce c.rcv tok' (beBytes (u64 (beNat nb)))
          exact hI1.write_role _ _ _ (nodup_append_new _ _ (hI _ _ _ hr) hc) hlen

/-- any call list, any functions, any callers (failed calls rolled back): no role list ever holds a duplicate -/
def runCalls (env : Env) : List (FnId × Call) → Accts → Accts
  | [], A => A
  | (f, c) :: rest, A =>
    match exec env f c { accts := A } with
    | .ok (_, ctx') => runCalls env rest ctx'.accts
    | _ => runCalls env rest A

def CallsDisciplined (env : Env) : List (FnId × Call) → Accts → Prop
  | [], _ => True
  | (f, c) :: rest, A =>
    SetRoleDisciplined f c A ∧
    match exec env f c { accts := A } with
    | .ok (_, ctx') => CallsDisciplined env rest ctx'.accts
    | _ => CallsDisciplined env rest A

theorem roles_nodup_history (env : Env) : ∀ (calls : List (FnId × Call)) (A : Accts), RolesNodup A →
    CallsDisciplined env calls A → RolesNodup (runCalls env calls A)
  | [], _, h, _ => h
  | (f, c) :: rest, A, hI, ⟨hd1, hrest⟩ => by
    rcases he : exec env f c { accts := A } with ⟨out, ctx'⟩ | _ | _ <;> simp only [runCalls, he] at hrest ⊢
    · exact roles_nodup_history env rest ctx'.accts (roles_nodup_step f env c A out ctx' hI hd1 he) hrest
    · exact roles_nodup_history env rest A hI hrest
    · exact roles_nodup_history env rest A hI hrest

end Esdt
