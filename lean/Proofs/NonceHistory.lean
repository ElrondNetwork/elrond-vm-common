/-
  Proofs/NonceHistory.lean — C07: the create step read off `nftCreate_effect`, and histories of arbitrary calls seen from one
  role holder (no hand-over in the history).  The world with hand-overs is Proofs/NetworkNonce.lean.
-/
import Proofs.Nonce
namespace Esdt

/-- FULL (create): each successful ESDTNFTCreate returns nonce = stored counter + 1, stores it as the new counter, records
    it in the metadata and uses it as the key suffix of the new entry -/
theorem create_succ (env : Env) (c : Call) (ctx ctx' : Ctx) (out : VMOutput)
    (h : esdtNFTCreate env c ctx = .ok (out, ctx')) :
    ∃ tok n, c.args[0]? = some tok ∧ n = u64 (counterOf (ctx.accts.read c.caller (nonceKeyPrefix ++ tok)) + 1) ∧
      out.ret = [beBytes n] ∧
      ctx'.accts.read c.caller (nonceKeyPrefix ++ tok) = beBytes n ∧
      ∃ qb name roy hash attrs, ctx'.accts.read c.caller (nftKey (esdtKeyPrefix ++ tok) n) =
        nftStoredForm (createdToken c qb name roy hash attrs n) ∧ mdNonce (createdToken c qb name roy hash attrs n) = n := by
  obtain ⟨tok, qb, name, roy, hash, attrs, n, A1, h0, _, _, _, _, _, hn, _, _, hret, hA1, hw⟩ := (nftCreate_effect env c ctx).elim h
  refine ⟨tok, n, h0, hn, hret, ?_, qb, name, roy, hash, attrs, ?_, rfl⟩
  · rw [hw, Accts.read_write]; simp
  · have hne : ¬ (c.caller = c.caller ∧ nonceKeyPrefix ++ tok = nftKey (esdtKeyPrefix ++ tok) n) := by
      rintro ⟨_, he⟩
      have := congrArg (List.take 7) he
      simp [nonceKeyPrefix, esdtKeyPrefix, nftKey, ascii] at this
    rw [hw, Accts.read_write, if_neg hne, hA1, Accts.read_write, if_pos ⟨rfl, rfl⟩]

/-- strictly increasing: below the 64-bit limit the new counter is exactly old + 1 and reads back as such -/
theorem create_increments (env : Env) (c : Call) (ctx ctx' : Ctx) (out : VMOutput)
    (h : esdtNFTCreate env c ctx = .ok (out, ctx')) (tok : Bytes) (h0 : c.args[0]? = some tok)
    (hlim : counterOf (ctx.accts.read c.caller (nonceKeyPrefix ++ tok)) + 1 < 2 ^ 64) :
    counterOf (ctx'.accts.read c.caller (nonceKeyPrefix ++ tok)) =
      counterOf (ctx.accts.read c.caller (nonceKeyPrefix ++ tok)) + 1 := by
  obtain ⟨tok', n, h0', hn, _, hread, _⟩ := create_succ env c ctx ctx' out h
  rw [h0] at h0'; cases h0'
  have hlt : counterOf (ctx.accts.read c.caller (nonceKeyPrefix ++ tok)) + 1 < two64 := by simpa [two64] using hlim
  rw [hread, hn, u64_of_lt _ hlt, counterOf_beBytes _ hlt]

/-- a create only moves the creator's OWN counter of the token it names -/
theorem create_touches_only_own_counter (env : Env) (c : Call) (ctx ctx' : Ctx) (out : VMOutput)
    (h : esdtNFTCreate env c ctx = .ok (out, ctx')) (a tok : Bytes) (hne : a ≠ c.caller) :
    ctx'.accts.read a (nonceKeyPrefix ++ tok) = ctx.accts.read a (nonceKeyPrefix ++ tok) := by
  obtain ⟨tok', qb, name, roy, hash, attrs, n, A1, _, _, _, _, _, _, _, _, _, _, hA1, hw⟩ := (nftCreate_effect env c ctx).elim h
  have h1 : ¬ (c.caller = a ∧ nonceKeyPrefix ++ tok' = nonceKeyPrefix ++ tok) := fun ⟨e, _⟩ => hne e.symm
  have h2 : ¬ (c.caller = a ∧ nftKey (esdtKeyPrefix ++ tok') n = nonceKeyPrefix ++ tok) := fun ⟨e, _⟩ => hne e.symm
  rw [hw, Accts.read_write, if_neg h1, hA1, Accts.read_write, if_neg h2]

structure HStep where
  f : FnId
  env : Env
  c : Call

/-- is this step a create by `h` for `tok`? -/
def HStep.isCreate (s : HStep) (h tok : Bytes) : Bool :=
  s.f == .nftCreate && s.c.caller == h && s.c.args[0]? == some tok

def nonceOfRet (out : VMOutput) : Nat := match out.ret with | [b] => beNat b | _ => 0

/-- run the steps from `A`; collect the nonces returned to `h` for `tok` (oldest first) -/
def hrun (h tok : Bytes) : List HStep → Accts → List Nat × Accts
  | [], A => ([], A)
  | s :: rest, A =>
    match exec s.env s.f s.c { accts := A } with
    | .ok (out, ctx') =>
      let r := hrun h tok rest ctx'.accts
      if s.isCreate h tok then (nonceOfRet out :: r.1, r.2) else r
    | _ => hrun h tok rest A

def ctr (A : Accts) (h tok : Bytes) : Nat := counterOf (A.read h (nonceKeyPrefix ++ tok))

/-- no counter of `h` for `tok` reaches 2^64 − 1 along the run (Go's uint64 would wrap to 0 there) -/
def NoWrapAlong (h tok : Bytes) : List HStep → Accts → Prop
  | [], A => ctr A h tok + 1 < 2 ^ 64
  | s :: rest, A =>
    ctr A h tok + 1 < 2 ^ 64 ∧
    match exec s.env s.f s.c { accts := A } with
    | .ok (_, ctx') => NoWrapAlong h tok rest ctx'.accts
    | _ => NoWrapAlong h tok rest A

theorem NoWrapAlong.head {h tok : Bytes} {steps : List HStep} {A : Accts} (hw : NoWrapAlong h tok steps A) :
    ctr A h tok + 1 < 2 ^ 64 := by
  cases steps with
  | nil => exact hw
  | cons s rest => exact hw.1

/-- one successful step: the counter of (h, tok) is unchanged, or the step is a create by `h` for `tok`, the counter rose
    by exactly one and the returned nonce is the new counter -/
theorem hstep_counter (h tok : Bytes) (s : HStep) (hno : s.f ≠ .nftCreateRoleTransfer) (A : Accts) (out : VMOutput)
    (ctx' : Ctx) (he : exec s.env s.f s.c { accts := A } = .ok (out, ctx')) (hw : ctr A h tok + 1 < 2 ^ 64) :
    (s.isCreate h tok = false ∧ ctr ctx'.accts h tok = ctr A h tok) ∨
    (s.isCreate h tok = true ∧ ctr ctx'.accts h tok = ctr A h tok + 1 ∧ nonceOfRet out = ctr A h tok + 1) := by
  by_cases hc : s.f = .nftCreate
  · have he' : esdtNFTCreate s.env s.c { accts := A } = .ok (out, ctx') := by
      unfold exec at he; rw [hc] at he; simpa [runFn] using he
    by_cases hcaller : s.c.caller = h
    · obtain ⟨tok', n, h0, hn, hret, hread, _⟩ := create_succ s.env s.c { accts := A } ctx' out he'
      by_cases htok : tok' = tok
      · subst htok
        refine Or.inr ⟨by simp [HStep.isCreate, hc, hcaller, h0], ?_, ?_⟩
        · have := create_increments s.env s.c { accts := A } ctx' out he' tok' h0 (by rw [hcaller]; exact hw)
          rw [hcaller] at this; exact this
        · have hlt : counterOf (A.read s.c.caller (nonceKeyPrefix ++ tok')) + 1 < two64 := by
            rw [hcaller]; simpa [two64, ctr] using hw
          simp only [nonceOfRet, hret, beNat_beBytes, hn, u64_of_lt _ hlt]
          rw [hcaller]; rfl
      · refine Or.inl ⟨by simp [HStep.isCreate, h0, htok], ?_⟩
        -- a create for another token writes (caller, nftKey tok' n) and (caller, nonce‖tok') only
        obtain ⟨tok2, qb, name, roy, hash, attrs, n2, A1, h0', _, _, _, _, _, _, _, _, _, hA1, hwr⟩ :=
          (nftCreate_effect s.env s.c { accts := A }).elim he'
        rw [h0] at h0'; cases h0'
        simp only [ctr]
        rw [hwr, Accts.read_write, hA1, Accts.read_write]
        have h1 : ¬ (s.c.caller = h ∧ nonceKeyPrefix ++ tok' = nonceKeyPrefix ++ tok) := by
          rintro ⟨_, e⟩; exact htok (List.append_cancel_left e)
        have h2 : ¬ (s.c.caller = h ∧ nftKey (esdtKeyPrefix ++ tok') n2 = nonceKeyPrefix ++ tok) := by
          rintro ⟨_, e⟩
          have := congrArg (List.take 7) e
          simp [nonceKeyPrefix, esdtKeyPrefix, nftKey, ascii] at this
        rw [if_neg h1, if_neg h2]
    · refine Or.inl ⟨by simp [HStep.isCreate, hcaller], ?_⟩
      simp only [ctr]
      rw [create_touches_only_own_counter s.env s.c { accts := A } ctx' out he' h tok (fun e => hcaller e.symm)]
  · refine Or.inl ⟨by simp [HStep.isCreate, hc], ?_⟩
    simp only [ctr]
    rw [counters_only_through s.f ⟨hc, hno⟩ s.env s.c { accts := A } ctx' out he h tok]

/-- FULL (history level, one holder, no hand-over in the history): the nonces returned to `h` for `tok` are all above the
    initial counter, strictly increasing, and bounded by the final counter -/
theorem hrun_increasing (h tok : Bytes) : ∀ (steps : List HStep) (A : Accts),
    (∀ s ∈ steps, s.f ≠ .nftCreateRoleTransfer) → NoWrapAlong h tok steps A →
    List.Pairwise (· < ·) (hrun h tok steps A).1 ∧
    (∀ n ∈ (hrun h tok steps A).1, ctr A h tok < n ∧ n ≤ ctr (hrun h tok steps A).2 h tok) ∧
    ctr A h tok ≤ ctr (hrun h tok steps A).2 h tok
  | [], _, _, _ => by simp [hrun]
  | s :: rest, A, hno, ⟨hw0, hwrest⟩ => by
    have hno' : ∀ s' ∈ rest, s'.f ≠ .nftCreateRoleTransfer := fun s' hs' => hno s' (List.mem_cons_of_mem _ hs')
    rcases he : exec s.env s.f s.c { accts := A } with ⟨out, ctx'⟩ | _ | _ <;> simp only [hrun, he] at hwrest ⊢
    · obtain ⟨ih1, ih2, ih3⟩ := hrun_increasing h tok rest ctx'.accts hno' hwrest
      rcases hstep_counter h tok s (hno s List.mem_cons_self) A out ctx' he hw0 with ⟨hc, hsame⟩ | ⟨hc, hinc, hret⟩
      · simp only [hc, Bool.false_eq_true, if_false]
        rw [hsame] at ih2 ih3
        exact ⟨ih1, ih2, ih3⟩
      · simp only [hc, if_true]
        refine ⟨List.pairwise_cons.mpr ⟨fun n hn => ?_, ih1⟩, fun n hn => ?_, by omega⟩
        · have := (ih2 n hn).1
          omega
        · rcases List.mem_cons.mp hn with rfl | hn
          · omega
          · have := ih2 n hn
            omega
    · exact hrun_increasing h tok rest A hno' hwrest
    · exact hrun_increasing h tok rest A hno' hwrest

end Esdt
