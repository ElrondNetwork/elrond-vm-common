/-
  Proofs/Fault.lean — C17: a failing dependency is never reported as success.
  `FaultSim m`: running `m` with the k-th counted dependency call failing behaves exactly like the
  unfaulted run up to that call, and returns the injected error as soon as the call is reached.
-/
import Proofs.Compositional
namespace Esdt

def Ctx.withFail (c : Ctx) (f : Option Nat) : Ctx := { c with failAt := f }

@[simp] theorem withFail_deps (c : Ctx) (f : Option Nat) : (c.withFail f).deps = c.deps := rfl
@[simp] theorem withFail_accts (c : Ctx) (f : Option Nat) : (c.withFail f).accts = c.accts := rfl
@[simp] theorem withFail_failAt (c : Ctx) (f : Option Nat) : (c.withFail f).failAt = f := rfl

/-- relation between the unfaulted result `r` and the result `r'` under fault plan `k` -/
def SimRes {α} (c : Ctx) (k : Nat) (r r' : Res (α × Ctx)) : Prop :=
  match r with
  | .ok (a, c') =>
      c'.failAt = none ∧ c.deps.length ≤ c'.deps.length ∧
      (if c'.deps.length ≤ k then r' = .ok (a, c'.withFail (some k)) else r' = .err .Injected)
  | .err e => r' = .err e ∨ r' = .err .Injected
  | .panic => True

def FaultSim {α} (m : M α) : Prop :=
  ∀ (c : Ctx) (k : Nat), c.deps.length ≤ k → c.failAt = none → SimRes c k (m c) (m (c.withFail (some k)))

theorem FaultSim.pure {α} (a : α) : FaultSim (pure a : M α) := by
  intro c k hk hf
  simp [SimRes, hf, hk]

theorem FaultSim.fail {α} (e : ErrKind) : FaultSim (fail e : M α) := by
  intro c k _ _; simp [SimRes]

theorem FaultSim.goPanic {α} : FaultSim (goPanic : M α) := by
  intro c k _ _; simp [SimRes]

theorem FaultSim.tick (d : Dep) : FaultSim (tick d) := by
  intro c k hk hf
  unfold Esdt.tick SimRes
  simp only [hf, withFail_failAt, withFail_deps]
  by_cases h : c.deps.length = k
  · subst h; simp [Ctx.withFail]
  · have hlt : c.deps.length < k := by omega
    have hne : ¬ (some k = some c.deps.length) := by intro he; cases he; omega
    simp [hne, Ctx.withFail]; omega

theorem FaultSim.bind {α β} {m : M α} {f : α → M β} (hm : FaultSim m) (hf : ∀ a, FaultSim (f a)) :
    FaultSim (m >>= f) := by
  intro c k hk hfa
  have h1 := hm c k hk hfa
  rw [bind_apply, bind_apply]
  unfold SimRes at h1 ⊢
  cases hmc : m c with
  | panic => simp
  | err e =>
    rw [hmc] at h1
    rcases h1 with h | h <;> simp [h]
  | ok p =>
    obtain ⟨a, c1⟩ := p
    rw [hmc] at h1
    obtain ⟨hf1, hmono, hcase⟩ := h1
    simp only []
    by_cases hc1 : c1.deps.length ≤ k
    · rw [if_pos hc1] at hcase
      rw [hcase]
      simp only []
      have h2 := hf a c1 k hc1 hf1
      unfold SimRes at h2
      cases hfa' : f a c1 with
      | panic => simp
      | err e => rw [hfa'] at h2; exact h2
      | ok q =>
        obtain ⟨b, c2⟩ := q
        rw [hfa'] at h2
        exact ⟨h2.1, Nat.le_trans hmono h2.2.1, h2.2.2⟩
    · rw [if_neg hc1] at hcase
      rw [hcase]
      simp only []
      cases hfa' : f a c1 with
      | panic => simp
      | err e => simp
      | ok q =>
        obtain ⟨b, c2⟩ := q
        -- the continuation only adds dependency calls
        have h2 := hf a c1 (c1.deps.length) (Nat.le_refl _) hf1
        unfold SimRes at h2
        rw [hfa'] at h2
        dsimp only at h2
        refine ⟨h2.1, Nat.le_trans hmono h2.2.1, ?_⟩
        have : ¬ c2.deps.length ≤ k := by have := h2.2.1; omega
        rw [if_neg this]
        trivial

/-- a computation that neither counts dependencies nor looks at the fault plan -/
theorem FaultSim.of_pure_state {α} (m : M α)
    (h : ∀ c f, match m c with
      | .ok (a, c') => c'.deps = c.deps ∧ c'.failAt = c.failAt ∧ m (c.withFail f) = .ok (a, c'.withFail f)
      | .err e => m (c.withFail f) = .err e
      | .panic => True) : FaultSim m := by
  intro c k hk hf
  have := h c (some k)
  unfold SimRes
  cases hm : m c with
  | panic => trivial
  | err e => rw [hm] at this; exact Or.inl this
  | ok p =>
    obtain ⟨a, c'⟩ := p
    rw [hm] at this
    obtain ⟨hd, hfa, he⟩ := this
    refine ⟨by rw [hfa, hf], by rw [hd]; exact Nat.le_refl _, ?_⟩
    rw [hd, if_pos hk]; exact he

theorem FaultSim.readKey (a k : Bytes) : FaultSim (readKey a k) :=
  FaultSim.of_pure_state _ (by intro c f; simp [Esdt.readKey, Ctx.withFail])

theorem FaultSim.getAcct (a : Bytes) : FaultSim (getAcct a) :=
  FaultSim.of_pure_state _ (by intro c f; simp [Esdt.getAcct, Ctx.withFail])

theorem FaultSim.setAcct (a : Bytes) (x : Acct) : FaultSim (setAcct a x) :=
  FaultSim.of_pure_state _ (by intro c f; simp [Esdt.setAcct, Ctx.withFail])

/-- the state-writing half of `writeKey` -/
theorem FaultSim.modify (g : Accts → Accts) :
    FaultSim (fun c => Res.ok ((), { c with accts := g c.accts }) : M Unit) := by
  intro c k hk hf
  simp [SimRes, hf, hk, Ctx.withFail]

/-- fault simulation is compositional, and every writer has it: hence every function does (`fs_runFn`) -/
theorem FaultSim.comp : Compositional @FaultSim :=
  ⟨FaultSim.pure, FaultSim.fail, FaultSim.goPanic, fun hm hf => FaultSim.bind hm hf, FaultSim.tick, FaultSim.readKey,
    FaultSim.getAcct⟩

theorem fs_writeKey (a k v : Bytes) : FaultSim (writeKey a k v) :=
  FaultSim.bind (FaultSim.tick _) fun _ =>
    FaultSim.modify (fun accts => accts.set a { accts.get a with store := (accts.get a).store.put k v })

/-- the four account-field setters -/
theorem fs_setField (a : Bytes) (g : Acct → Acct) :
    FaultSim (fun c => Res.ok ((), { c with accts := c.accts.set a (g (c.accts.get a)) }) : M Unit) :=
  FaultSim.modify (fun A => A.set a (g (A.get a)))

theorem fs_runFn (f : FnId) (env : Env) (c : Call) : FaultSim (runFn f env c) := by
  have hP := FaultSim.comp
  have w : ∀ {a k : Bytes} (v : Bytes), v.length < two63 → FaultSim (writeKey a k v) := fun v _ => fs_writeKey _ _ v
  have wn : ∀ {a tk : Bytes} (n : Nat) (v : Bytes), v.length < two63 → FaultSim (writeKey a (nftKey tk n) v) :=
    fun _ v _ => fs_writeKey _ _ v
  have bal : ∀ {a k : Bytes} (d : Int) (r : Bool), FaultSim (addToESDTBalance a k d r) :=
    fun d r => comp_addToESDTBalance hP d r w
  have nft : ∀ {a tk : Bytes} (t : Token) (r : Bool), FaultSim (saveNFT a tk t r) := fun t r => comp_saveNFT hP t r wn
  have dst : ∀ {a tk : Bytes} (t : Token) (mv r : Bool), FaultSim (addNFTToDestination env a t tk mv r) :=
    fun t mv r => comp_addNFTToDestination hP env t mv r wn
  have one : ∀ l d t n q v, FaultSim (transferOne env c l d t n q v) :=
    fun l d t n q v => comp_transferOne hP env c l d t n q v (fun _ => nft _ _) (fun _ => dst _ _ _)
  cases f <;> simp only [runFn]
  · exact comp_claimDeveloperRewards hP env c (fs_setField _ fun x => { x with reward := 0 })
      (fun v => fs_setField _ fun x => { x with balance := v })
  · exact comp_changeOwnerAddress hP env c (fun v => fs_setField _ fun x => { x with owner := v })
  · exact comp_setUserName hP env c (fun v => fs_setField _ fun x => { x with name := v })
  · exact comp_saveKeyValue hP env c (fun _ v _ _ _ => fs_writeKey _ _ v)
  · exact comp_esdtPause hP env c _ (fun _ _ => fs_writeKey _ _ _)
  · exact comp_esdtPause hP env c _ (fun _ _ => fs_writeKey _ _ _)
  · exact comp_esdtTransfer hP env c (fun _ _ _ _ _ => bal _ _)
  · exact comp_esdtBurn hP env c (fun _ _ _ => bal _ _)
  · exact comp_esdtFreezeWipe hP env c _ (fun _ _ => fs_writeKey _ _ _) (fun _ _ _ => comp_saveESDTData hP _ w)
  · exact comp_esdtFreezeWipe hP env c _ (fun _ _ => fs_writeKey _ _ _) (fun _ _ _ => comp_saveESDTData hP _ w)
  · exact comp_esdtFreezeWipe hP env c _ (fun _ _ => fs_writeKey _ _ _) (fun _ _ _ => comp_saveESDTData hP _ w)
  · exact comp_esdtRoles hP env c _ (fun _ _ _ => comp_saveRoles hP _ w)
  · exact comp_esdtRoles hP env c _ (fun _ _ _ => comp_saveRoles hP _ w)
  · exact comp_esdtLocalBurn hP env c (fun _ _ _ => bal _ _)
  · exact comp_esdtLocalMint hP env c (fun _ _ _ => bal _ _)
  · exact comp_esdtNFTAddQuantity hP env c (fun _ _ _ => nft _ _)
  · exact comp_esdtNFTBurn hP env c (fun _ _ _ => nft _ _)
  · exact comp_esdtNFTCreate hP env c (fun _ _ _ => nft _ _) (fun _ _ _ _ => fs_writeKey _ _ _)
  · exact comp_esdtNFTTransfer hP env c (fun _ _ _ _ _ _ _ => nft _ _) (fun _ _ _ _ _ _ _ _ _ _ => dst _ _ _)
      (fun _ _ _ _ _ _ _ _ => dst _ _ _)
  · exact comp_esdtNFTCreateRoleTransfer hP env c (fun _ _ _ _ _ _ => fs_writeKey _ _ _)
      (fun _ _ _ => comp_saveRoles hP _ w) (fun _ _ _ _ => comp_addCreateRole hP w)
  · exact comp_esdtNFTUpdateAttributes hP env c (fun _ _ _ => nft _ _)
  · exact comp_esdtNFTAddURI hP env c (fun _ _ _ => nft _ _)
  · exact comp_multiTransfer hP env c (fun _ _ _ _ _ _ _ _ _ _ _ _ => one _ _ _ _ _ _)
      (fun _ _ _ _ _ _ _ _ _ => dst _ _ _) (fun _ _ _ _ _ => bal _ _)

end Esdt
