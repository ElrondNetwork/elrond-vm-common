/-
  Proofs/PauseFlagOnly.lean — C03: the global settings of a token (the pause flag: the system account's slot under the
  token key) change ONLY through ESDTPause / ESDTUnPause (which only the system contract can call: `C03.system_only`).
  Every other function — all 21, any caller, any arguments, transfers with any number of items included — leaves every
  token-key slot of the system account exactly as it was, provided the system account is not itself used as an
  ordinary account (App. C E6: it is the global-settings store, never a caller, receiver or destination).
-/
import Proofs.Writes
namespace Esdt

/-- the system account's slot under key `k` holds `raw` -/
def Sz (k raw : Bytes) (A : Accts) : Prop := A.read systemAccountAddress k = raw

variable {k raw : Bytes}

theorem Sz.write_other {A : Accts} (h : Sz k raw A) (a1 k1 v : Bytes) (ha : a1 ≠ systemAccountAddress) :
    Sz k raw (A.write a1 k1 v) := by
  unfold Sz at *
  rw [Accts.read_write, if_neg (fun (hh : a1 = systemAccountAddress ∧ k1 = k) => ha hh.1)]; exact h

/-- E6: the system account is not used as an ordinary account by this call -/
def SysUntouched (c : Call) : Prop :=
  c.caller ≠ systemAccountAddress ∧ c.rcv ≠ systemAccountAddress ∧ ∀ a ∈ c.args, a ≠ systemAccountAddress

/-- every function other than ESDTPause / ESDTUnPause leaves the system account's slot under every token key alone:
    its write set names the system account only if the call does -/
theorem sys_slot_step (fn : FnId) (hfn : fn ≠ .esdtPause ∧ fn ≠ .esdtUnPause) (env : Env) (c : Call) (A : Accts)
    (out : VMOutput) (ctx' : Ctx) (hs : SysUntouched c) (_hk : TokKey k) (hf : Sz k raw A)
    (h : exec env fn c { accts := A } = .ok (out, ctx')) : Sz k raw ctx'.accts := by
  unfold Sz at *
  rw [exec_read_eq h (fun hw => ?_), hf]
  rcases wrAddr_cases hw.1 with h | h | h | ⟨_, h | h⟩
  · exact hs.1 h.symm
  · exact hs.2.1 h.symm
  · exact hs.2.2 _ h rfl
  · exact hfn.1 h
  · exact hfn.2 h

end Esdt
