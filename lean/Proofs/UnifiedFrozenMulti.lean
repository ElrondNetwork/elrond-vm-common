/-
  Proofs/UnifiedFrozenMulti.lean — C04, frozen half: ESDTNFTTransfer and MultiESDTNFTTransfer steps in the mixed-world
  history theorem. While account `a` is frozen for the FUNGIBLE token `tok`, neither function — either half, any number of
  items — moves that balance or lifts the freeze. Hypotheses: token identifiers do not alias, and (sender side only) no item
  names `tok` with a non-zero nonce (`tok` is a fungible token: it has no NFTs).
-/
import Proofs.UnifiedFrozen
import Proofs.UnifiedPausedMulti
namespace Esdt

variable {a tok : Bytes} {v : Int}

theorem nftKey_ne_fung (tk : Bytes) (n : Nat) (hn : n ≠ 0) : nftKey tk n ≠ tk := by
  intro h
  unfold nftKey at h
  have : beBytes n = [] := by
    have := congrArg List.length h
    simpa using this
  exact hn ((beBytes_eq_nil_iff n).mp this)

/-- a write under a key of ANOTHER token (no aliasing) leaves the frozen pair alone -/
theorem Fz.write_otherTok {A : Accts} (hf : Fz a tok v A) (a1 tokenID val : Bytes) (n : Nat) (hne : tokenID ≠ tok)
    (hna : NoAliasTok tok tokenID) : Fz a tok v (A.write a1 (nftKey (esdtKeyPrefix ++ tokenID) n) val) :=
  hf.write_other _ _ _ (fun hh => hna hne 0 n (by rw [nftKey_zero]; exact hh.2))

theorem fzn_saveNFT_other (a1 tokenID : Bytes) (t : Token) (rae : Bool) (hne : tokenID ≠ tok) (hna : NoAliasTok tok tokenID) :
    Pres (Fz a tok v) (saveNFT a1 (esdtKeyPrefix ++ tokenID) t rae) :=
  gated_saveNFT fun _ _ hf _ => hf.write_otherTok _ _ _ _ hne hna

theorem fzn_addNFT_other (env : Env) (dst tokenID : Bytes) (t : Token) (mv rae : Bool) (hne : tokenID ≠ tok)
    (hna : NoAliasTok tok tokenID) : Pres (Fz a tok v) (addNFTToDestination env dst t (esdtKeyPrefix ++ tokenID) mv rae) :=
  gated_addNFTToDestination env mv fun _ _ hf _ => hf.write_otherTok _ _ _ _ hne hna

/-- a credit of `tok` itself through `addNFTToDestination` (whatever the arriving entry's nonce): the gate looks at the
    entry the destination HOLDS — the frozen one, if the destination is `a` and the key is the fungible key -/
theorem fzn_addNFT_tok (env : Env) (dst : Bytes) (t : Token) (mv : Bool) (hsc : a ≠ esdtSCAddress) :
    Pres (Fz a tok v) (addNFTToDestination env dst t (esdtKeyPrefix ++ tok) mv false) :=
  gated_addNFTToDestination env mv fun _ val hf h => hf.write_gated dst _ val (fun ha _ => h.notFrozen (ha ▸ hsc))

/-- `transferOne` of `tok` itself as a FUNGIBLE item (nonce 0): the entry read is the entry written, so the gate sees the
    frozen flag -/
theorem fzn_transferOne_tok (env : Env) (c : Call) (hrae : c.rae = false) (hsc : a ≠ esdtSCAddress) (l : Bool)
    (dst : Bytes) (q : Nat) (vf : Bool) : Pres (Fz a tok v) (transferOne env c l dst tok 0 q vf) := by
  intro ctx hf
  unfold transferOne
  simp only [hrae]
  xsteps
  apply Post.mono (spec_getNFTOnSender c.caller (esdtKeyPrefix ++ tok) 0 ctx)
  intro t c1 ⟨h1, hne, hdec, _, hnon⟩
  rw [nftKey_zero] at hne hdec
  have hmd0 : ∀ (val : Option Int), mdNonce { t with value := val } = 0 := by
    intro val
    unfold mdNonce
    cases hm : t.md with
    | none => simp [hm]
    | some m => simp [hm]; rcases hnon m hm with h | h <;> exact h
  xsteps
  apply Post.mono (spec_saveNFT c.caller (esdtKeyPrefix ++ tok) _ false c1)
  intro b c2 ⟨_, hg, _, _, hw⟩
  rw [hmd0, nftKey_zero] at hw
  have hf1 : Fz a tok v c1.accts := by rw [h1]; exact hf
  have ht : tokenOf (c1.accts.read c.caller (esdtKeyPrefix ++ tok)) = some t := by
    rw [h1]; simp [tokenOf, hne, hdec]
  have hf2 : Fz a tok v c2.accts := by
    rw [hw]
    exact hf1.write_gated _ _ _ (fun he _ => ⟨t, ht, (hg rfl (he ▸ hsc)).1⟩)
  cases l with
  | true => simp only [if_true]; exact (fzn_addNFT_tok env dst _ vf hsc c2 hf2)
  | false => simp only [Bool.false_eq_true, if_false]; apply Post.pure; exact hf2

/-- sender side only: no item names `tok` with a non-zero nonce (`tok` is a fungible token) -/
def FungOnly (tok : Bytes) (c : Call) : Prop :=
  ∀ i t0 nb, c.args[i]? = some t0 → c.args[i + 1]? = some nb → t0 = tok → u64 (beNat nb) = 0

/-- a credit through `addNFTToDestination`, not flagged: of `tok` itself or of a token that does not alias it -/
theorem fzn_addNFT (env : Env) (dst tokenID : Bytes) (t : Token) (mv : Bool) (hsc : a ≠ esdtSCAddress)
    (hna : NoAliasTok tok tokenID) : Pres (Fz a tok v) (addNFTToDestination env dst t (esdtKeyPrefix ++ tokenID) mv false) := by
  by_cases ht : tokenID = tok
  · exact ht ▸ fzn_addNFT_tok env dst t mv hsc
  · exact fzn_addNFT_other env dst tokenID t mv false ht hna

/-- one sender-side item: `tok` itself only as a fungible item, any other token as it comes -/
theorem fzn_transferOne (env : Env) (c : Call) (hrae : c.rae = false) (hsc : a ≠ esdtSCAddress) (l : Bool)
    (dst tokenID : Bytes) (n q : Nat) (vf : Bool) (hna : NoAliasTok tok tokenID) (hfo : tokenID = tok → n = 0) :
    Pres (Fz a tok v) (transferOne env c l dst tokenID n q vf) := by
  by_cases ht : tokenID = tok
  · rw [ht, hfo ht]; exact fzn_transferOne_tok env c hrae hsc l dst q vf
  · exact comp_transferOne Pres.comp env c l dst tokenID n q vf (fun t => fzn_saveNFT_other _ _ t _ ht hna)
      (fun t => fzn_addNFT_other env dst _ t vf _ ht hna)

section
variable (env : Env) (c : Call)

theorem fzn_multiTransfer (hrae : c.rae = false) (hsc : a ≠ esdtSCAddress)
    (hna : NoAliasArgs tok c) (hfo : FungOnly tok c) : Pres (Fz a tok v) (multiTransfer env c) :=
  have mem {i : Nat} {t : Bytes} (h : c.args[i]? = some t) := hna t (List.mem_of_getElem? h)
  comp_multiTransfer Pres.comp env c
    (fun _ dst _ i t0 nb _ l vf h0 h1 _ => fzn_transferOne env c hrae hsc l dst t0 _ _ vf (mem h0) (hfo i t0 nb h0 h1))
    (fun _ _ _ _ t h0 _ _ mv => hrae ▸ fzn_addNFT env _ _ t mv hsc (mem h0))
    (fun _ _ _ _ d => hrae ▸ fz_addTo _ _ d hsc)

/-- a MultiESDTNFTTransfer (flagged or not) whose items all name OTHER tokens -/
theorem fzn_multiTransfer_other (hoth : ∀ t0 ∈ c.args, t0 ≠ tok ∧ NoAliasTok tok t0) :
    Pres (Fz a tok v) (multiTransfer env c) :=
  have mem {i : Nat} {t : Bytes} (h : c.args[i]? = some t) := hoth t (List.mem_of_getElem? h)
  comp_multiTransfer Pres.comp env c
    (fun _ dst _ _ t0 _ _ l vf h0 _ _ => comp_transferOne Pres.comp env c l dst t0 _ _ vf
      (fun t => fzn_saveNFT_other _ _ t _ (mem h0).1 (mem h0).2)
      (fun t => fzn_addNFT_other env dst _ t vf _ (mem h0).1 (mem h0).2))
    (fun _ _ _ _ t h0 _ _ mv => fzn_addNFT_other env _ _ t mv _ (mem h0).1 (mem h0).2)
    (fun _ _ _ h0 d => fz_addTo_other _ _ d _ (fun hh => (mem h0).1 (List.append_cancel_left hh.2)))

/-- destination halves (deliveries): caller ≠ receiver, so the sender-side branch is not taken -/
theorem fzn_multiTransfer_dest (hne : c.caller ≠ c.rcv) (hrae : c.rae = false)
    (hsc : a ≠ esdtSCAddress) (hna : NoAliasArgs tok c) : Pres (Fz a tok v) (multiTransfer env c) :=
  comp_multiTransfer Pres.comp env c (fun he => absurd he hne)
    (fun _ _ t0 _ t h0 _ _ mv => hrae ▸ fzn_addNFT env _ _ t mv hsc (hna t0 (List.mem_of_getElem? h0)))
    (fun _ _ _ _ d => hrae ▸ fz_addTo _ _ d hsc)

/-! ### ESDTNFTTransfer -/

/-- the sender half proceeds only for a non-zero nonce, which `FungOnly` excludes for `tok` itself -/
theorem fzn_nftTransfer (hrae : c.rae = false) (hsc : a ≠ esdtSCAddress)
    (hna : NoAliasArgs tok c) (hfo : FungOnly tok c) : Pres (Fz a tok v) (esdtNFTTransfer env c) :=
  have ne {t0 nb : Bytes} (h0 : c.args[0]? = some t0) (h1 : c.args[1]? = some nb) (hnz : u64 (beNat nb) ≠ 0) :
      t0 ≠ tok := fun ht => hnz (hfo 0 t0 nb h0 h1 ht)
  have mem {i : Nat} {t : Bytes} (h : c.args[i]? = some t) := hna t (List.mem_of_getElem? h)
  comp_esdtNFTTransfer Pres.comp env c
    (fun _ _ _ h0 h1 hnz t => fzn_saveNFT_other _ _ t _ (ne h0 h1 hnz) (mem h0))
    (fun _ _ _ dst h0 h1 hnz _ t mv => fzn_addNFT_other env dst _ t mv _ (ne h0 h1 hnz) (mem h0))
    (fun _ _ _ t h0 _ _ mv => hrae ▸ fzn_addNFT env _ _ t mv hsc (mem h0))

/-- an ESDTNFTTransfer (flagged or not) of ANOTHER token -/
theorem fzn_nftTransfer_other (hoth : ∀ t0, c.args[0]? = some t0 → t0 ≠ tok ∧ NoAliasTok tok t0) :
    Pres (Fz a tok v) (esdtNFTTransfer env c) :=
  comp_esdtNFTTransfer Pres.comp env c
    (fun _ t0 _ h0 _ _ t => fzn_saveNFT_other _ _ t _ (hoth t0 h0).1 (hoth t0 h0).2)
    (fun _ t0 _ dst h0 _ _ _ t mv => fzn_addNFT_other env dst _ t mv _ (hoth t0 h0).1 (hoth t0 h0).2)
    (fun _ t0 _ t h0 _ _ mv => fzn_addNFT_other env _ _ t mv _ (hoth t0 h0).1 (hoth t0 h0).2)

/-- destination halves (deliveries): caller ≠ receiver, so the sender-side branch is not taken -/
theorem fzn_nftTransfer_dest (hne : c.caller ≠ c.rcv) (hrae : c.rae = false)
    (hsc : a ≠ esdtSCAddress) (hna : ∀ t0, c.args[0]? = some t0 → NoAliasTok tok t0) :
    Pres (Fz a tok v) (esdtNFTTransfer env c) :=
  comp_esdtNFTTransfer Pres.comp env c (fun he => absurd he hne) (fun he => absurd he hne)
    (fun _ t0 _ t h0 _ _ mv => hrae ▸ fzn_addNFT env _ _ t mv hsc (hna t0 h0))

end

/-! ### the world: all three kinds of transfer traffic mixed with the 20 other functions -/

/-- what is assumed of a step for the frozen pair, NFT and multi transfer steps included -/
def UFzStepOK2 (a tok : Bytes) (w : UWorld) : UStep → Prop
  | .nft (.user c) => c.rae = false ∧ NoAliasArgs tok c ∧ FungOnly tok c
  | .nft (.deliver j) => ∀ m, w.nft[j]? = some m → m.caller ≠ m.rcv ∧ NoAliasTok tok m.tok
  | .nft (.refund j) => ∀ m, w.nft[j]? = some m → m.tok ≠ tok ∧ NoAliasTok tok m.tok ∧ m.rcv ≠ m.caller
  | .multi (.user c) => c.rae = false ∧ NoAliasArgs tok c ∧ FungOnly tok c
  | .multi (.deliver j) => ∀ m, w.multi[j]? = some m → m.caller ≠ m.rcv ∧ ∀ t0 ∈ m.args, NoAliasTok tok t0
  | .multi (.refund j) => ∀ m, w.multi[j]? = some m → m.rcv ≠ m.caller ∧ ∀ t0 ∈ m.args, t0 ≠ tok ∧ NoAliasTok tok t0
  | st => UFzStepOK a tok w st

theorem ustep_fz2 (e : Env) (w : UWorld) (st : UStep) (i : Nat) (hI : UInv e w) (hok : UStepOK e w st)
    (hfz : UFzStepOK2 a tok w st) (hsc : a ≠ esdtSCAddress) (hsys : a ≠ systemAccountAddress)
    (hF : FzW a tok v i w) : FzW a tok v i (ustep e w st) := by
  cases st with
  | ft s => exact ustep_fz e w (.ft s) i hI hok hfz hsc hsys hF
  | call s fn c => exact ustep_fz e w (.call s fn c) i hI hok hfz hsc hsys hF
  | nft st =>
    refine ustep_shard i (fun s fn c hc A hA hf => ?_) hF
    cases st with
    | user c' => cases hc; exact fzn_nftTransfer _ c hfz.1 hsc hfz.2.1 hfz.2.2 _ hf
    | deliver j =>
      obtain ⟨m, hm, hc⟩ := Option.map_eq_some_iff.mp hc; cases hc
      exact fzn_nftTransfer_dest _ (nDeliveryCall m) (hfz m hm).1 rfl hsc (fun t0 ht0 => by cases ht0; exact (hfz m hm).2)
        _ hf
    | refund j =>
      obtain ⟨m, hm, hc⟩ := Option.map_eq_some_iff.mp hc; cases hc
      exact fzn_nftTransfer_other _ (nRefundCall m)
        (fun t0 ht0 => by cases ht0; exact ⟨(hfz m hm).1, (hfz m hm).2.1⟩) _ hf
  | multi st =>
    refine ustep_shard i (fun s fn c hc A hA hf => ?_) hF
    cases st with
    | user c' => cases hc; exact fzn_multiTransfer _ c hfz.1 hsc hfz.2.1 hfz.2.2 _ hf
    | deliver j =>
      obtain ⟨m, hm, hc⟩ := Option.map_eq_some_iff.mp hc; cases hc
      exact fzn_multiTransfer_dest _ (mDeliveryCall m) (hfz m hm).1 rfl hsc (hfz m hm).2 _ hf
    | refund j =>
      obtain ⟨m, hm, hc⟩ := Option.map_eq_some_iff.mp hc; cases hc
      exact fzn_multiTransfer_other _ (mRefundCall m) (hfz m hm).2 _ hf

def UFzStepsOK2 (e : Env) (a tok : Bytes) : List UStep → UWorld → Prop
  | [], _ => True
  | st :: rest, w => UFzStepOK2 a tok w st ∧ UFzStepsOK2 e a tok rest (ustep e w st)

/-- FULL over histories of ALL 23 functions, frozen half -/
theorem unified_fz_history2 (e : Env) (i : Nat) (hsc : a ≠ esdtSCAddress) (hsys : a ≠ systemAccountAddress) :
    ∀ (steps : List UStep) (w : UWorld), UInv e w → UStepsOK e steps w → UFzStepsOK2 e a tok steps w →
      FzW a tok v i w → FzW a tok v i (urun e steps w).1 :=
  urun_pres e fun st _ w hI hok hR hF => ⟨ustep_fz2 e w st i hI hok hR.1 hsc hsys hF, hR.2⟩

end Esdt
