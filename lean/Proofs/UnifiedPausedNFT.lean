/-
  Proofs/UnifiedPausedNFT.lean — C04, pause half: the mixed-world history theorem of Proofs/UnifiedPaused.lean extended by
  the ESDTNFTTransfer steps (user transactions, deliveries, refusals, refunds of NFT / SFT transfers).
-/
import Proofs.UnifiedPaused
namespace Esdt

variable {tok : Bytes} {f : Bytes → Nat → Bytes}

/-- what is assumed of a step for the paused token, NFT-transfer steps included -/
def UPzStepOK2 (tok : Bytes) (w : UWorld) : UStep → Prop
  | .nft (.user c) => c.rae = false ∧ ∀ t0, c.args[0]? = some t0 → NoAliasTok tok t0
  | .nft (.deliver j) => ∀ m, w.nft[j]? = some m → NoAliasTok tok m.tok
  | .nft (.refund j) => ∀ m, w.nft[j]? = some m → m.tok ≠ tok ∧ NoAliasTok tok m.tok ∧ m.rcv ≠ m.caller
  | st => UPzStepOK tok w st

theorem ustep_pz2 (e : Env) (w : UWorld) (st : UStep) (i : Nat) (hok : UStepOK e w st)
    (hpz : UPzStepOK2 tok w st) (hF : PzW tok f i w) : PzW tok f i (ustep e w st) := by
  cases st with
  | ft s => exact ustep_pz e w (.ft s) i hok hpz hF
  | multi s => exact ustep_pz e w (.multi s) i hok hpz hF
  | call s fn c => exact ustep_pz e w (.call s fn c) i hok hpz hF
  | nft st =>
    refine ustep_pz_of e w _ i (fun s fn c hc A hA => ?_) hF
    cases st with
    | user c' => cases hc; exact .of_transfer rfl fun t ht => ⟨hpz.2 t ht, Or.inl hpz.1⟩
    | deliver j =>
      obtain ⟨m, hm, hc⟩ := Option.map_eq_some_iff.mp hc; cases hc
      exact .of_transfer rfl fun t ht => by cases ht; exact ⟨hpz m hm, Or.inl rfl⟩
    | refund j =>
      obtain ⟨m, hm, hc⟩ := Option.map_eq_some_iff.mp hc; cases hc
      exact .of_transfer rfl fun t ht => by cases ht; exact ⟨(hpz m hm).2.1, Or.inr (hpz m hm).1⟩

def UPzStepsOK2 (e : Env) (tok : Bytes) : List UStep → UWorld → Prop
  | [], _ => True
  | st :: rest, w => UPzStepOK2 tok w st ∧ UPzStepsOK2 e tok rest (ustep e w st)

/-- FULL over histories of ESDTTransfer and ESDTNFTTransfer traffic mixed with the 20 non-transfer functions -/
theorem unified_pz_history2 (e : Env) (i : Nat) :
    ∀ (steps : List UStep) (w : UWorld), UInv e w → UStepsOK e steps w → UPzStepsOK2 e tok steps w →
      PzW tok f i w → PzW tok f i (urun e steps w).1 :=
  urun_pres e fun st _ w _ hok hR hF => ⟨ustep_pz2 e w st i hok hR.1 hF, hR.2⟩

end Esdt
