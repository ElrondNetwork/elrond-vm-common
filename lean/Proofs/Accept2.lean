/-
  Proofs/Accept2.lean — total correctness of DELIVERIES: the destination half of ESDTTransfer / ESDTNFTTransfer SUCCEEDS
  on the destination shard and credits exactly the carried amount, unless one of the refusals the property names applies
  (destination entry frozen, token paused, account not payable, — for NFTs — another hash on the destination).
  The gate condition asked for here (`GatePasses`) is the one a successful run establishes (`GateOpen`: `gateOpen_iff`).
  A refund (callback call type, return-after-error flag) is the instance where no gate and no payability is consulted.
-/
import Proofs.Accept
namespace Esdt

/-- the gate as the property words it: open for return-after-error executions and for the system contract's own
    account, otherwise open iff the entry is not frozen and the token not paused on this shard -/
theorem M.pure_apply {α} (a : α) (c : Ctx) : M.pure a c = .ok (a, c) := rfl

def GatePasses (A : Accts) (addr key : Bytes) (t : Token) (rae : Bool) : Prop :=
  rae = true ∨ addr = esdtSCAddress ∨ (frozenOf t.properties = false ∧ pausedIn A key = false)

theorem gateOpen_iff (A : Accts) (a k : Bytes) (t : Token) (rae : Bool) :
    GateOpen A a k t rae ↔ GatePasses A a k t rae := by
  unfold GateOpen GatePasses
  cases rae <;> by_cases h : a = esdtSCAddress <;> simp [h]

theorem checkFrozeAndPause_accepts (a k : Bytes) (t : Token) (rae : Bool) (ctx : Ctx)
    (hg : GatePasses ctx.accts a k t rae) : checkFrozeAndPause a k t rae ctx = .ok ((), ctx) := by
  unfold checkFrozeAndPause
  by_cases hr : rae = true
  · simp [hr, Pure.pure, M.pure]
  · by_cases ha : a = esdtSCAddress
    · simp [hr, ha, Pure.pure, M.pure]
    · rcases hg with h | h | ⟨hf, hp⟩
      · exact absurd h hr
      · exact absurd h ha
      · have hp' : ((ctx.accts.get systemAccountAddress).store.get k).length = 2 →
            pausedOf ((ctx.accts.get systemAccountAddress).store.get k) = false := by
          intro hl
          have := hp
          simp only [pausedIn, Accts.read, hl, decide_true, Bool.true_and] at this
          exact this
        simp only [hr, ha, if_false, Bool.false_eq_true, isPaused, Esdt.readKey, Esdt.guardE, hf, Bind.bind, M.bind,
          Pure.pure, M.pure]
        by_cases hl : ((ctx.accts.get systemAccountAddress).store.get k).length = 2
        · simp [hl, hp' hl, M.pure_apply]
        · simp [hl, M.pure_apply]

/-- a credit / debit through `addToESDTBalance` succeeds on every well-formed fungible entry whose gate passes, when the
    result is not negative and still fits -/
theorem addToESDTBalance_accepts (a k : Bytes) (d : Int) (rae : Bool) (ctx : Ctx) (hnf : ctx.failAt = none)
    (t : Token) (v : Int) (ht : tokenOf (ctx.accts.read a k) = some t) (hty : t.type = 0)
    (hv : t.value = some v) (h0 : 0 ≤ v + d) (hg : GatePasses ctx.accts a k t rae)
    (hlen : (encToken { t with value := some (v + d) }).length < two63) :
    ∃ ctx', addToESDTBalance a k d rae ctx = .ok ((), ctx') ∧ ctx'.failAt = none ∧
      ctx'.accts = ctx.accts.write a k (storedForm { t with value := some (v + d) }) := by
  obtain ⟨c1, h1, hnf1, ha1⟩ := getESDTDataFromKey_accepts a k t ctx hnf ht
  obtain ⟨c2, h2, hnf2, ha2⟩ := saveESDTData_accepts a k { t with value := some (v + d) } (v + d) c1 hnf1 rfl hlen
  have hneg : ¬ (v + d < 0) := by omega
  have hgate := checkFrozeAndPause_accepts a k t rae c1 (by rw [ha1]; exact hg)
  refine ⟨c2, ?_, hnf2, by rw [ha2, ha1]⟩
  unfold addToESDTBalance
  simp only [Bind.bind, M.bind, h1, Esdt.guardE, hty, ne_eq, not_true_eq_false, decide_false, Bool.false_eq_true, if_false,
    Pure.pure, M.pure, deref, hv, hneg, hgate]
  rw [hty] at h2
  exact h2

/-- the answer of the payability oracle that lets a credit through: asked only when `must`, and then it said yes -/
theorem verifyPayableIf_accepts (env : Env) (must : Bool) (a : Bytes) (ctx : Ctx) (hnf : ctx.failAt = none)
    (hp : must = true → env.payable a = .yes) :
    ∃ ctx', verifyPayableIf env must a ctx = .ok ((), ctx') ∧ ctx'.failAt = none ∧ ctx'.accts = ctx.accts := by
  unfold verifyPayableIf
  cases must with
  | false => exact ⟨ctx, rfl, hnf, rfl⟩
  | true =>
    simp only [if_true, verifyPayable, Esdt.tick, hnf, Bind.bind, M.bind, hp rfl, Pure.pure, M.pure,
      List.length_cons, reduceCtorEq, if_false]
    exact ⟨_, rfl, rfl, rfl⟩

/-- DELIVERY of an ESDTTransfer (the destination half: sender not on this shard, destination here; any call type, any gas,
    with or without an attached call): it SUCCEEDS and credits exactly the carried amount whenever the destination's entry
    is a well-formed fungible entry, the gate passes (not frozen, not paused — or a flagged refund / the system contract's
    own account) and, where payability must be verified, the oracle says yes. -/
theorem esdtTransfer_delivery_accepted (env : Env) (c : Call) (ctx : Ctx) (tok amt : Bytes) (rest : List Bytes)
    (hargs : c.args = tok :: amt :: rest) (hamt : beNat amt ≠ 0) (hval : c.callValue = 0)
    (hsnd : present env.nshards env.self c.caller = false) (hdst : present env.nshards env.self c.rcv = true)
    (hmeta : shardOf env.nshards c.rcv ≠ metaShard) (hnf : ctx.failAt = none)
    (t : Token) (v : Int) (ht : tokenOf (ctx.accts.read c.rcv (esdtKeyPrefix ++ tok)) = some t) (hty : t.type = 0)
    (hv : t.value = some v) (hv0 : 0 ≤ v)
    (hg : GatePasses ctx.accts c.rcv (esdtKeyPrefix ++ tok) t c.rae)
    (hpay : mustVerifyPayable c 2 = true → env.payable c.rcv = .yes)
    (hlen : (encToken { t with value := some (v + (beNat amt : Int)) }).length < two63) :
    ∃ out ctx', esdtTransfer env c ctx = .ok (out, ctx') ∧ out.rc = 0 ∧
      ctx'.accts = ctx.accts.write c.rcv (esdtKeyPrefix ++ tok) (storedForm { t with value := some (v + (beNat amt : Int)) }) := by
  obtain ⟨c0, h0, hnf0, ha0⟩ := verifyPayableIf_accepts env (mustVerifyPayable c 2) c.rcv ctx hnf hpay
  obtain ⟨c1, h1, _, ha1⟩ := addToESDTBalance_accepts c.rcv (esdtKeyPrefix ++ tok) (beNat amt) c.rae c0 hnf0 t v
    (by rw [ha0]; exact ht) hty hv (by omega) (by rw [ha0]; exact hg) hlen
  rw [ha0] at ha1
  unfold esdtTransfer checkBasic
  simp only [hsnd, hdst, hval, hargs, Esdt.guardE, Esdt.argAt, deref, Bind.bind, M.bind, Pure.pure, M.pure,
    List.length_cons, List.getElem?_cons_zero, List.getElem?_cons_succ, ne_eq, not_true_eq_false,
    decide_false, Bool.false_eq_true, if_false, if_true, hmeta, hamt, reduceCtorEq, decide_true, M.pure_apply]
  have hl : ¬ (rest.length + 1 + 1 < 2) := by omega
  simp only [hl, decide_false, Bool.false_eq_true, if_false]
  rw [show (M.pure () ctx : Res (Unit × Ctx)) = .ok ((), ctx) from rfl]
  try dsimp only
  rw [h0]
  try dsimp only
  rw [h1]
  try dsimp only
  cases hsc : (isSmartContractAddress c.rcv && decide (rest.length + 1 + 1 > 2))
  · simp only [Bool.false_eq_true, if_false]
    exact ⟨_, _, rfl, by split <;> rfl, ha1⟩
  · simp only [if_true]
    have hlen2 : rest.length + 1 + 1 > 2 := by
      have := hsc; simp only [Bool.and_eq_true, decide_eq_true_eq] at this; exact this.2
    match rest, hlen2 with
    | f :: rest', _ =>
      simp only [List.getElem?_cons_zero, M.bind, M.pure_apply]
      exact ⟨_, _, rfl, rfl, ha1⟩

/-- the NFT credit succeeds when payability (if it has to be verified) is confirmed, the destination's entry under the
    payload's key is empty or decodes, the gate passes for the destination's entry and for the arriving entry (at the
    token key and at the NFT's own key), the destination holds no OTHER hash, and the merged entry is positive and fits -/
theorem addNFTToDestination_accepts (env : Env) (dst tk : Bytes) (t cur : Token) (m : MetaData) (tv cv : Int)
    (must rae : Bool) (ctx : Ctx) (hnf : ctx.failAt = none) (hmd : t.md = some m)
    (hpay : must = true → env.payable dst = .yes)
    (hcur : tokenOf (ctx.accts.read dst (nftKey tk m.nonce)) = some cur)
    (hhash : ∀ cm, cur.md = some cm → cm.hash = m.hash)
    (hg1 : GatePasses ctx.accts dst tk cur rae) (hg2 : GatePasses ctx.accts dst tk t rae)
    (hg3 : GatePasses ctx.accts dst (nftKey tk m.nonce) t rae)
    (htv : t.value = some tv) (hcv : cur.value = some cv) (hpos : 0 < tv + cv)
    (hlen : (encToken { t with value := some (tv + cv) }).length < two63) :
    ∃ ctx', addNFTToDestination env dst t tk must rae ctx = .ok ({ t with value := some (tv + cv) }, ctx') ∧
      ctx'.failAt = none ∧
      ctx'.accts = ctx.accts.write dst (nftKey tk m.nonce) (encToken { t with value := some (tv + cv) }) := by
  obtain ⟨ty, val, props, md, res⟩ := t
  simp only at hmd htv hlen hg2 hg3 ⊢
  subst hmd; subst htv
  obtain ⟨c0, h0, hnf0, ha0⟩ := verifyPayableIf_accepts env must dst ctx hnf hpay
  have hread : (c0.accts.get dst).store.get (nftKey tk m.nonce) = ctx.accts.read dst (nftKey tk m.nonce) := by
    rw [ha0]; rfl
  have hle : ¬ (tv + cv ≤ 0) := by omega
  have hget : ∃ c1, getNFTOnDestination dst tk m.nonce c0 = .ok ((cur, decide (ctx.accts.read dst (nftKey tk m.nonce) = [])), c1) ∧
      c1.failAt = none ∧ c1.accts = ctx.accts := by
    unfold getNFTOnDestination
    unfold tokenOf at hcur
    by_cases hraw : ctx.accts.read dst (nftKey tk m.nonce) = []
    · rw [if_pos hraw] at hcur
      cases hcur
      simp only [Esdt.readKey, Bind.bind, M.bind, hread, hraw, if_true, Pure.pure, M.pure, decide_true]
      exact ⟨_, rfl, hnf0, ha0⟩
    · rw [if_neg hraw] at hcur
      simp only [Esdt.readKey, Bind.bind, M.bind, hread, hraw, if_false, unmarshalToken, Esdt.tick, hnf0, hcur, Pure.pure,
        M.pure, List.length_cons, reduceCtorEq, decide_false]
      exact ⟨_, rfl, rfl, ha0⟩
  obtain ⟨c1, h1, hnf1, ha1⟩ := hget
  have hsame : checkSameHash cur ⟨ty, some tv, props, some m, res⟩ c1 = .ok ((), c1) := by
    unfold checkSameHash
    cases hc : cur.md with
    | none => rfl
    | some cm =>
      simp only [Esdt.guardE, hhash cm hc, ne_eq, not_true_eq_false, decide_false, Bool.false_eq_true, if_false,
        Pure.pure, M.pure]
  have hgate1 := checkFrozeAndPause_accepts dst tk cur rae c1 (by rw [ha1]; exact hg1)
  have hgate2 := checkFrozeAndPause_accepts dst tk ⟨ty, some (tv + cv), props, some m, res⟩ rae c1 (by rw [ha1]; exact hg2)
  have hgate3 := checkFrozeAndPause_accepts dst (nftKey tk m.nonce) ⟨ty, some (tv + cv), props, some m, res⟩ rae c1
    (by rw [ha1]; exact hg3)
  unfold addNFTToDestination saveNFT
  simp only [Bind.bind, M.bind, h0, h1, hgate1, hsame, Pure.pure, M.pure, deref, hcv, hgate2, hgate3, hle, if_false,
    marshalToken, Esdt.tick, hnf1, hlen, if_true, Esdt.writeKey, List.length_cons, reduceCtorEq, ha1]
  exact ⟨_, rfl, rfl, rfl⟩

/-- DELIVERY of an ESDTNFTTransfer message (destination half: sender elsewhere, destination on this shard; any call type,
    with or without an attached call): it SUCCEEDS and stores the payload with `Value := carried + held` whenever the
    payload decodes to an entry with metadata, the destination's slot is empty or decodes, the gates pass, payability is
    confirmed where it has to be, and the destination does not hold the same nonce with ANOTHER hash -/
theorem esdtNFTTransfer_delivery_accepted (env : Env) (c : Call) (ctx : Ctx) (tok nb qb payload : Bytes)
    (rest : List Bytes) (hargs : c.args = tok :: nb :: qb :: payload :: rest) (hval : c.callValue = 0)
    (hne : c.caller ≠ c.rcv)
    (hsnd : present env.nshards env.self c.caller = false) (hdst : present env.nshards env.self c.rcv = true)
    (hnf : ctx.failAt = none)
    (t cur : Token) (m : MetaData) (tv cv : Int) (hdec : decToken payload = some t) (hmd : t.md = some m)
    (hpay : mustVerifyPayable c 4 = true → env.payable c.rcv = .yes)
    (hcur : tokenOf (ctx.accts.read c.rcv (nftKey (esdtKeyPrefix ++ tok) m.nonce)) = some cur)
    (hhash : ∀ cm, cur.md = some cm → cm.hash = m.hash)
    (hg1 : GatePasses ctx.accts c.rcv (esdtKeyPrefix ++ tok) cur c.rae)
    (hg2 : GatePasses ctx.accts c.rcv (esdtKeyPrefix ++ tok) t c.rae)
    (hg3 : GatePasses ctx.accts c.rcv (nftKey (esdtKeyPrefix ++ tok) m.nonce) t c.rae)
    (htv : t.value = some tv) (hcv : cur.value = some cv) (hpos : 0 < tv + cv)
    (hlen : (encToken { t with value := some (tv + cv) }).length < two63) :
    ∃ out ctx', esdtNFTTransfer env c ctx = .ok (out, ctx') ∧ out.rc = 0 ∧
      ctx'.accts = ctx.accts.write c.rcv (nftKey (esdtKeyPrefix ++ tok) m.nonce)
        (encToken { t with value := some (tv + cv) }) := by
  have hun : unmarshalToken payload ctx = .ok (t, { ctx with deps := Dep.u :: ctx.deps }) := by
    simp only [unmarshalToken, Esdt.tick, hnf, Bind.bind, M.bind, hdec, Pure.pure, M.pure, List.length_cons, reduceCtorEq]
    rfl
  obtain ⟨c2, h2, _, ha2⟩ := addNFTToDestination_accepts env c.rcv (esdtKeyPrefix ++ tok) t cur m tv cv
    (mustVerifyPayable c 4) c.rae { ctx with deps := Dep.u :: ctx.deps } hnf hmd hpay hcur hhash hg1 hg2 hg3 htv hcv hpos hlen
  have ha2' : c2.accts = ctx.accts.write c.rcv (nftKey (esdtKeyPrefix ++ tok) m.nonce)
      (encToken { t with value := some (tv + cv), md := some m }) := by rw [ha2, hmd]
  unfold esdtNFTTransfer checkBasic
  simp only [hsnd, hdst, hval, hargs, hne, Esdt.guardE, Esdt.argAt, deref, Bind.bind, M.bind, Pure.pure, M.pure,
    List.length_cons, List.getElem?_cons_zero, List.getElem?_cons_succ, ne_eq, not_true_eq_false,
    decide_false, Bool.false_eq_true, if_false, if_true, reduceCtorEq, decide_true, hun, Bool.not_false, Bool.not_true]
  have hl1 : ¬ (rest.length + 1 + 1 + 1 + 1 < 2) := by omega
  have hl2 : ¬ (rest.length + 1 + 1 + 1 + 1 < 4) := by omega
  simp only [hl1, hl2, decide_false, Bool.false_eq_true, if_false]
  rw [show (M.pure () ctx : Res (Unit × Ctx)) = .ok ((), ctx) from rfl]
  try dsimp only
  rw [show (M.pure () ctx : Res (Unit × Ctx)) = .ok ((), ctx) from rfl]
  try dsimp only
  rw [hun]
  try dsimp only
  rw [h2]
  try dsimp only
  cases hsc : (decide (rest.length + 1 + 1 + 1 + 1 > 4) && isSmartContractAddress c.rcv)
  · simp only [Bool.false_eq_true, if_false, hmd, M.pure_apply]
    exact ⟨_, _, rfl, rfl, ha2'⟩
  · simp only [if_true]
    have hlen2 : rest.length + 1 + 1 + 1 + 1 > 4 := by
      have := hsc; simp only [Bool.and_eq_true, decide_eq_true_eq] at this; exact this.1
    match rest, hlen2 with
    | f :: rest', _ =>
      simp only [List.getElem?_cons_zero, M.bind, M.pure_apply, hmd]
      exact ⟨_, _, rfl, rfl, ha2'⟩

/-! ### "a refund is never rejected" -/

/-- the refund of an ESDTTransfer (callback call type, return-after-error flag, transfer arguments only, executed on the
    origin shard) succeeds on every state where the origin's entry is a well-formed fungible entry -/
theorem esdtTransfer_refund_accepted (env : Env) (c : Call) (ctx : Ctx) (tok amt : Bytes)
    (hct : c.callType = 2) (hrae : c.rae = true) (hargs : c.args = [tok, amt]) (hamt : beNat amt ≠ 0)
    (hval : c.callValue = 0)
    (hsnd : present env.nshards env.self c.caller = false) (hdst : present env.nshards env.self c.rcv = true)
    (hmeta : shardOf env.nshards c.rcv ≠ metaShard) (hnf : ctx.failAt = none)
    (t : Token) (v : Int) (ht : tokenOf (ctx.accts.read c.rcv (esdtKeyPrefix ++ tok)) = some t) (hty : t.type = 0)
    (hv : t.value = some v) (hv0 : 0 ≤ v)
    (hlen : (encToken { t with value := some (v + (beNat amt : Int)) }).length < two63) :
    ∃ out ctx', esdtTransfer env c ctx = .ok (out, ctx') ∧ out.rc = 0 ∧
      ctx'.accts = ctx.accts.write c.rcv (esdtKeyPrefix ++ tok) (storedForm { t with value := some (v + (beNat amt : Int)) }) :=
  esdtTransfer_delivery_accepted env c ctx tok amt [] hargs hamt hval hsnd hdst hmeta hnf t v ht hty hv hv0
    (Or.inl hrae) (fun h => by simp [mustVerifyPayable, hct] at h) hlen

/-- the refund of an ESDTNFTTransfer (callback call type, return-after-error flag, the four transfer arguments of the
    message that was refused, executed on the origin shard) succeeds whenever the payload decodes to an entry with metadata
    and a positive quantity, the origin's slot under that key is empty or decodes, and — if the origin still holds pieces
    — their hash is the payload's.  The last two are what the world invariants give (C15 `Canon`, C08 `UMdInv`); the
    size bound is the physical one (Go slices). -/
theorem esdtNFTTransfer_refund_accepted (env : Env) (c : Call) (ctx : Ctx) (tok nb qb payload : Bytes)
    (hct : c.callType = 2) (hrae : c.rae = true) (hargs : c.args = [tok, nb, qb, payload]) (hval : c.callValue = 0)
    (hne : c.caller ≠ c.rcv)
    (hsnd : present env.nshards env.self c.caller = false) (hdst : present env.nshards env.self c.rcv = true)
    (hnf : ctx.failAt = none)
    (t cur : Token) (m : MetaData) (tv cv : Int) (hdec : decToken payload = some t) (hmd : t.md = some m)
    (hcur : tokenOf (ctx.accts.read c.rcv (nftKey (esdtKeyPrefix ++ tok) m.nonce)) = some cur)
    (hhash : ∀ cm, cur.md = some cm → cm.hash = m.hash)
    (htv : t.value = some tv) (hcv : cur.value = some cv) (hpos : 0 < tv + cv)
    (hlen : (encToken { t with value := some (tv + cv) }).length < two63) :
    ∃ out ctx', esdtNFTTransfer env c ctx = .ok (out, ctx') ∧ out.rc = 0 ∧
      ctx'.accts = ctx.accts.write c.rcv (nftKey (esdtKeyPrefix ++ tok) m.nonce)
        (encToken { t with value := some (tv + cv) }) :=
  esdtNFTTransfer_delivery_accepted env c ctx tok nb qb payload [] hargs hval hne hsnd hdst hnf t cur m tv cv hdec hmd
    (fun h => by simp [mustVerifyPayable, hct] at h) hcur hhash (Or.inl hrae) (Or.inl hrae) (Or.inl hrae) htv hcv hpos hlen

end Esdt
