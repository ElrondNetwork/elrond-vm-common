/-
  Proofs/Nonce.lean — C07 / C08: exact effect of ESDTNFTCreate and of the create-role hand-over.
-/
import Proofs.Ledger
import Proofs.Authority
namespace Esdt

/-- the NFT-create counter stored under ELRONDnonce‖token (0 when absent) -/
def counterOf (raw : Bytes) : Nat := if raw = [] then 0 else u64 (beNat raw)

theorem spec_getLatestNonce (a tok : Bytes) (c : Ctx) :
    Post (getLatestNonce a tok) c (fun n c' => c'.accts = c.accts ∧ n = counterOf (c.accts.read a (nonceKeyPrefix ++ tok))) := by
  unfold getLatestNonce
  apply Post.bind
  apply Post.mono (spec_readKey a _ c)
  intro raw c1 ⟨h1, hraw⟩
  subst hraw
  exact Post.pure ⟨h1, rfl⟩

theorem spec_saveLatestNonce (a tok : Bytes) (n : Nat) (c : Ctx) :
    Post (saveLatestNonce a tok n) c (fun _ c' => c'.accts = c.accts.write a (nonceKeyPrefix ++ tok) (beBytes n)) := by
  unfold saveLatestNonce
  exact spec_writeKey _ _ _ c

/-- reading back a stored counter -/
theorem counterOf_beBytes (n : Nat) (h : n < two64) : counterOf (beBytes n) = n := by
  unfold counterOf
  by_cases h0 : n = 0
  · subst h0; simp [beBytes_zero]
  · simp [beBytes_ne_nil n h0, beNat_beBytes, u64_of_lt n h]

/-- the entry ESDTNFTCreate stores -/
def createdToken (c : Call) (qb name roy hash attrs : Bytes) (n : Nat) : Token :=
  let m : MetaData :=
    { nonce := n, name := name, creator := c.caller, royalties := u32 (u64 (beNat roy)), hash := hash,
      attributes := attrs, uris := c.args.drop 6 }
  { type := 1, value := some (beNat qb : Int), md := some m }

theorem getLatestNonce_counter (a tok : Bytes) {c : Ctx} {A : Accts} (hA : c.accts = A) :
    Post (getLatestNonce a tok) c (fun n c' => c'.accts = A ∧ n = counterOf (A.read a (nonceKeyPrefix ++ tok))) := by
  subst hA
  exact spec_getLatestNonce a tok c

/-- ESDTNFTCreate, everything a successful call establishes: the caller holds the create role (and, for a quantity above
    one, the add-quantity role); the new nonce is the stored counter + 1; it is returned, recorded in the metadata, used
    as the key suffix of the new entry — which holds the given quantity and the given metadata — and stored as the new
    counter -/
theorem nftCreate_spec (env : Env) (c : Call) (ctx : Ctx) :
    Post (esdtNFTCreate env c) ctx (fun out ctx' => ∃ tok qb name roy hash attrs n A1,
      c.args[0]? = some tok ∧ c.args[1]? = some qb ∧ c.args[2]? = some name ∧ c.args[3]? = some roy ∧
      c.args[4]? = some hash ∧ c.args[5]? = some attrs ∧
      n = u64 (counterOf (ctx.accts.read c.caller (nonceKeyPrefix ++ tok)) + 1) ∧
      beNat qb ≠ 0 ∧ u32 (u64 (beNat roy)) ≤ maxRoyalty ∧
      HasRole ctx.accts c.caller tok roleNFTCreate ∧
      (1 < beNat qb → HasRole ctx.accts c.caller tok roleNFTAddQuantity) ∧
      out.ret = [beBytes n] ∧
      Saved ctx.accts A1 c.caller (esdtKeyPrefix ++ tok) (createdToken c qb name roy hash attrs n) c.rae ∧
      ctx'.accts = A1.write c.caller (nonceKeyPrefix ++ tok) (beBytes n)) := by
  unfold esdtNFTCreate checkCreateBurnAdd checkBasic
  xsteps
  apply Post.mono (spec_checkAllowed _ _ _ rfl)
  rintro _ c1 ⟨h1, hrole⟩
  xsteps
  apply Post.mono (getLatestNonce_counter _ _ h1)
  rintro nonce c2 ⟨h2, rfl⟩
  xsteps
  apply Post.mono (spec_checkAllowedIf _ _ _ _ h2)
  rintro _ c3 ⟨h3, hrole2⟩
  xsteps
  apply Post.mono (saveNFT_saved _ _ _ _ h3)
  rintro bytes c4 ⟨_, saved⟩
  xsteps
  apply Post.mono (spec_saveLatestNonce _ _ _ c4)
  intro _ c5 h5
  exact Post.pure ⟨_, _, _, _, _, _, _, _, ‹c.args[0]? = some _›, ‹c.args[1]? = some _›, ‹c.args[2]? = some _›,
    ‹c.args[3]? = some _›, ‹c.args[4]? = some _›, ‹c.args[5]? = some _›, rfl,
    of_decide_eq_false ‹decide (beNat _ = 0) = false›, by simpa using ‹decide (u32 (u64 (beNat _)) > maxRoyalty) = false›,
    hrole, fun hq => hrole2 (by simpa using hq), rfl, saved, h5⟩

theorem nftCreate_effect (env : Env) (c : Call) (ctx : Ctx) :
    Post (esdtNFTCreate env c) ctx (fun out ctx' => ∃ tok qb name roy hash attrs n A1,
      c.args[0]? = some tok ∧ c.args[1]? = some qb ∧ c.args[2]? = some name ∧ c.args[3]? = some roy ∧
      c.args[4]? = some hash ∧ c.args[5]? = some attrs ∧
      n = u64 (counterOf (ctx.accts.read c.caller (nonceKeyPrefix ++ tok)) + 1) ∧
      beNat qb ≠ 0 ∧ u32 (u64 (beNat roy)) ≤ maxRoyalty ∧
      out.ret = [beBytes n] ∧
      A1 = ctx.accts.write c.caller (nftKey (esdtKeyPrefix ++ tok) n)
        (nftStoredForm (createdToken c qb name roy hash attrs n)) ∧
      ctx'.accts = A1.write c.caller (nonceKeyPrefix ++ tok) (beBytes n)) := by
  apply (nftCreate_spec env c ctx).mono
  rintro _ _ ⟨tok, qb, name, roy, hash, attrs, n, A1, h0, h1, h2, h3, h4, h5, hn, hq, hr, _, _, hret, saved, hw⟩
  exact ⟨tok, qb, name, roy, hash, attrs, n, A1, h0, h1, h2, h3, h4, h5, hn, hq, hr, hret, saved.written, hw⟩

theorem gate_nftCreate (env : Env) (c : Call) (ctx : Ctx) :
    Post (esdtNFTCreate env c) ctx (fun _ _ => ∃ tok, c.args[0]? = some tok ∧ HasRole ctx.accts c.caller tok roleNFTCreate) := by
  apply (nftCreate_spec env c ctx).mono
  rintro _ _ ⟨tok, _, _, _, _, _, _, _, h0, _, _, _, _, _, _, _, _, hrole, _⟩
  exact ⟨tok, h0, hrole⟩

end Esdt

namespace Esdt

/-- role list stored under a role key (empty when absent) -/
def rolesOf (raw : Bytes) : Option (List Bytes) := if raw = [] then some [] else decRoles raw

theorem spec_getRoles (a k : Bytes) (c : Ctx) :
    Post (getRoles a k) c (fun r c' => c'.accts = c.accts ∧ rolesOf (c.accts.read a k) = some r.1) := by
  unfold getRoles
  apply Post.bind
  apply Post.mono (spec_readKey a k c)
  intro raw c1 ⟨h1, hraw⟩
  subst hraw
  split
  · rename_i he; exact Post.pure ⟨h1, by simp [rolesOf, he]⟩
  · rename_i he
    apply Post.bind
    apply Post.mono (spec_unmarshalRoles _ c1)
    intro r c2 ⟨h2, hd⟩
    exact Post.pure ⟨by rw [h2, h1], by simp [rolesOf, he, hd]⟩

theorem spec_saveRoles (a k : Bytes) (r : List Bytes) (c : Ctx) :
    Post (saveRoles a k r) c (fun _ c' => c'.accts = c.accts.write a k (encRoles r)) := by
  unfold saveRoles marshalRoles
  apply Post.bind
  apply Post.bind
  apply Post.mono (RO.tick .m c)
  intro _ c1 h1
  split
  · apply Post.pure
    apply Post.mono (spec_writeKey a k _ c1)
    intro _ c2 h2
    rw [h2, h1]
  · exact Post.fail

theorem args_eq_pair (args : List Bytes) (x y : Bytes) (hl : args.length = 2) (h0 : args[0]? = some x)
    (h1 : args[1]? = some y) : args = [x, y] := by
  match args, hl with
  | [a, b], _ => simp at h0 h1; rw [h0, h1]

/-- hand-over, step at the current holder on another shard than the next holder: the holder's counter is zeroed, the
    create role removed from its list, and the emitted message carries the token and the OLD counter -/
theorem handover_currentOwner_crossShard (env : Env) (c : Call) (ctx : Ctx) (hsys : c.caller = esdtSCAddress) :
    Post (esdtNFTCreateRoleTransfer env c) ctx (fun out ctx' => ∃ tok dest roles n A1,
      c.args = [tok, dest] ∧ n = counterOf (ctx.accts.read c.rcv (nonceKeyPrefix ++ tok)) ∧
      A1 = ctx.accts.write c.rcv (nonceKeyPrefix ++ tok) (beBytes 0) ∧
      rolesOf (A1.read c.rcv (roleKeyPrefix ++ tok)) = some roles ∧
      (shardOf env.nshards dest ≠ env.self →
        ctx'.accts = A1.write c.rcv (roleKeyPrefix ++ tok) (encRoles (deleteRoles roles [roleNFTCreate]))) ∧
      ∃ tr, out.outAccts = [{ addr := dest, balance := some 0, delta := some 0, transfers := [tr] }] ∧
        tr.data = encodeCall fnESDTNFTCreateRoleTransfer [tok, beBytes n]) := by
  unfold esdtNFTCreateRoleTransfer checkBasic
  simp only [hsys, if_true]
  xsteps
  apply Post.mono (spec_getLatestNonce _ _ ctx)
  intro n c1 ⟨h1, hn⟩
  xsteps
  apply Post.mono (spec_saveLatestNonce _ _ _ c1)
  intro _ c2 h2
  xsteps
  apply Post.mono (spec_getRoles _ _ c2)
  intro r c3 ⟨h3, hr⟩
  obtain ⟨roles, isNew⟩ := r
  simp only at hr ⊢
  xsteps
  apply Post.mono (spec_saveRoles _ _ _ c3)
  intro _ c4 h4
  have hargs := args_eq_pair c.args _ _ (by simpa using ‹decide (c.args.length ≠ 2) = false›)
    ‹c.args[0]? = some _› ‹c.args[1]? = some _›
  xsteps
  split
  · rename_i hsame
    repeat' (first | xstep | wp_forget | apply Post.pure)
    refine ⟨_, _, roles, n, _, hargs, by rw [hn], rfl, by rw [h2, h1] at hr; exact hr, fun hne => absurd hsame hne, _, rfl, by rw [hn]⟩
  · rename_i hdiff
    repeat' (first | xstep | apply Post.pure)
    refine ⟨_, _, roles, n, _, hargs, by rw [hn], rfl, by rw [h2, h1] at hr; exact hr, fun _ => ?_, _, rfl, by rw [hn]⟩
    rw [h4, h3, h2, h1]

/-- hand-over, step at the next holder (delivery of the message): the counter from the message is installed and the
    create role added (once) -/
theorem handover_nextOwner (env : Env) (c : Call) (ctx : Ctx) (hsys : c.caller ≠ esdtSCAddress) :
    Post (esdtNFTCreateRoleTransfer env c) ctx (fun _ ctx' => ∃ tok nb A1 roles,
      c.args = [tok, nb] ∧ A1 = ctx.accts.write c.rcv (nonceKeyPrefix ++ tok) (beBytes (u64 (beNat nb))) ∧
      rolesOf (A1.read c.rcv (roleKeyPrefix ++ tok)) = some roles ∧
      ctx'.accts = (if roles.contains roleNFTCreate then A1
                    else A1.write c.rcv (roleKeyPrefix ++ tok) (encRoles (roles ++ [roleNFTCreate])))) := by
  unfold esdtNFTCreateRoleTransfer checkBasic
  simp only [hsys, if_false]
  xsteps
  apply Post.mono (spec_saveLatestNonce _ _ _ ctx)
  intro _ c1 h1
  unfold addCreateRole
  xsteps
  apply Post.mono (spec_getRoles _ _ c1)
  intro r c2 ⟨h2, hr⟩
  obtain ⟨roles, isNew⟩ := r
  simp only at hr ⊢
  have hargs := args_eq_pair c.args _ _ (by simpa using ‹decide (c.args.length ≠ 2) = false›)
    ‹c.args[0]? = some _› ‹c.args[1]? = some _›
  split
  · rename_i hhas
    repeat' (first | xstep | apply Post.pure)
    refine ⟨_, _, _, roles, hargs, rfl, by rw [h1] at hr; exact hr, ?_⟩
    simp only [hhas, if_true]; rw [h2, h1]
  · rename_i hhas
    xsteps
    apply Post.mono (spec_saveRoles _ _ _ c2)
    intro _ c3 h3
    repeat' (first | xstep | apply Post.pure)
    refine ⟨_, _, _, roles, hargs, rfl, by rw [h1] at hr; exact hr, ?_⟩
    simp only [hhas]; rw [h3, h2, h1]; rfl

end Esdt
