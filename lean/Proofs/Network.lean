/-
  Proofs/Network.lean — a world of shards with in-flight cross-shard messages (Appendix C: delivery, failed delivery ⇒
  refund message, refund flagged return-after-error, failed calls rolled back), for the fungible transfer function.
  The per-key supply  Σ_shards Σ_accounts balance + Σ_in-flight amount  is invariant under every history.
-/
import Proofs.WF
import Proofs.Short
import Proofs.Wire
namespace Esdt

/-! ### sums over an account list -/

/-- decoded balance under storage key `k`, summed over the accounts of one shard -/
def balAt (A : Accts) (k : Bytes) : Int := (A.map fun p => balOf (p.2.store.get k)).sum

def Accts.Nodup (A : Accts) : Prop := (A.map (·.1)).Nodup

theorem Accts.get_of_not_mem (A : Accts) (a : Bytes) (h : a ∉ A.map (·.1)) : A.get a = {} := by
  induction A with
  | nil => rfl
  | cons p rest ih =>
    obtain ⟨a', x⟩ := p
    simp only [List.map_cons, List.mem_cons, not_or] at h
    simp only [Accts.get]
    rw [if_neg (fun e => h.1 e.symm)]
    exact ih h.2

theorem filter_ne_of_not_mem (A : Accts) (a : Bytes) (h : a ∉ A.map (·.1)) : A.filter (fun p => p.1 ≠ a) = A := by
  induction A with
  | nil => rfl
  | cons p rest ih =>
    obtain ⟨a', x⟩ := p
    simp only [List.map_cons, List.mem_cons, not_or] at h
    simp only [List.filter]
    have : decide (a' ≠ a) = true := by simpa using fun e => h.1 e.symm
    rw [this, ih h.2]

/-- splitting off one account -/
theorem balAt_split (A : Accts) (hn : A.Nodup) (a k : Bytes) :
    balAt A k = balOf ((A.get a).store.get k) + balAt (A.filter (fun p => p.1 ≠ a)) k := by
  induction A with
  | nil => simp [balAt, Accts.get, Store.get, balOf_nil]
  | cons p rest ih =>
    obtain ⟨a', x⟩ := p
    have hn' : Accts.Nodup rest := (List.nodup_cons.mp hn).2
    have hnot : a' ∉ rest.map (·.1) := (List.nodup_cons.mp hn).1
    by_cases he : a' = a
    · subst he
      simp only [Accts.get, if_true, List.filter]
      have : decide (a' ≠ a') = false := by simp
      rw [this, filter_ne_of_not_mem rest a' hnot]
      simp [balAt]
    · simp only [Accts.get, if_neg he, List.filter]
      have : decide (a' ≠ a) = true := by simpa using he
      rw [this]
      have := ih hn'
      simp only [balAt, List.map_cons, List.sum_cons] at this ⊢
      omega

theorem Accts.set_nodup (A : Accts) (hn : A.Nodup) (a : Bytes) (x : Acct) : (A.set a x).Nodup := by
  unfold Accts.Nodup Accts.set
  simp only [List.map_cons]
  refine List.nodup_cons.mpr ⟨?_, ?_⟩
  · intro hm
    obtain ⟨p, hp, he⟩ := List.mem_map.mp hm
    have := (List.mem_filter.mp hp).2
    simp at this
    exact this he
  · exact List.Nodup.sublist (List.Sublist.map _ List.filter_sublist) hn

theorem Accts.write_nodup (A : Accts) (hn : A.Nodup) (a k v : Bytes) : (A.write a k v).Nodup :=
  Accts.set_nodup A hn a _

/-- one storage write moves the shard's sum under `k2` by the change of the written slot (if it is under `k2`) -/
theorem balAt_write (A : Accts) (hn : A.Nodup) (a k v k2 : Bytes) :
    balAt (A.write a k v) k2 = balAt A k2 + (if k = k2 then balOf v - balOf (A.read a k) else 0) := by
  have h1 := balAt_split A hn a k2
  have h2 := balAt_split (A.write a k v) (Accts.write_nodup A hn a k v) a k2
  have hf : (A.write a k v).filter (fun p => p.1 ≠ a) = A.filter (fun p => p.1 ≠ a) := by
    unfold Accts.write Accts.set
    simp only [List.filter]
    have : decide (a ≠ a) = false := by simp
    rw [this]
    rw [List.filter_filter]
    simp
  rw [hf] at h2
  have hr : ((A.write a k v).get a).store.get k2 = if k = k2 then v else (A.get a).store.get k2 := by
    have := Accts.read_write A a k v a k2
    simp only [Accts.read, true_and] at this
    exact this
  rw [hr] at h2
  split
  · rename_i he; subst he
    simp only [if_true] at h2
    simp only [Accts.read]
    omega
  · rename_i he
    rw [if_neg he] at h2
    omega

end Esdt

namespace Esdt

theorem balOf_old {A : Accts} {a k : Bytes} {t : Token} {v : Int} (hold : tokenOf (A.read a k) = some t)
    (hv : t.value = some v) : balOf (A.read a k) = v := by
  simp [balOf, hold, hv]

/-- reading back the slot a ledger helper rewrote: the balance moved by exactly `d` (the written value is shorter than
    2^63 bytes, so the production decoder inverts the encoder on it) -/
theorem OneWrite.delta {A A' : Accts} {a k : Bytes} {t : Token} {v d : Int} (h : OneWrite A A' a k t v d)
    (hlen : (A'.read a k).length < two63) : balOf (A'.read a k) = balOf (A.read a k) + d := by
  rw [balOf_old h.old h.value]
  have hr : A'.read a k = storedForm { t with value := some (v + d) } := by
    rw [h.written, Accts.read_write, if_pos ⟨rfl, rfl⟩]
  rw [hr] at hlen ⊢
  unfold storedForm at hlen ⊢
  split
  · rename_i hz
    rw [balOf_nil]
    have := hz.1
    simp at this
    omega
  · rename_i hz
    rw [if_neg hz] at hlen
    have hn : NumOK { t with value := some (v + d) } := (tokenOf_num h.old).withValue _
    have := roundtrip_of_length _ hn hlen
    simp [balOf, tokenOf, encToken_ne_nil, this]

/-- … and the shard's per-key sum moves by `d` under the written key, by nothing under any other key -/
theorem OneWrite.balAt {A A' : Accts} {a k : Bytes} {t : Token} {v d : Int} (h : OneWrite A A' a k t v d)
    (hn : A.Nodup) (hlen : (A'.read a k).length < two63) (k2 : Bytes) :
    Esdt.balAt A' k2 = Esdt.balAt A k2 + (if k = k2 then d else 0) := by
  have hd := h.delta hlen
  have hr : A'.read a k = storedForm { t with value := some (v + d) } := by
    rw [h.written, Accts.read_write, if_pos ⟨rfl, rfl⟩]
  rw [h.written, balAt_write A hn]
  split
  · rw [← hr, hd]; omega
  · rfl

theorem OneWrite.nodup {A A' : Accts} {a k : Bytes} {t : Token} {v d : Int} (h : OneWrite A A' a k t v d)
    (hn : A.Nodup) : A'.Nodup := by rw [h.written]; exact Accts.write_nodup A hn _ _ _

/-! ### argument lists -/

theorem cons_of_getElem?_zero {α : Type} {l : List α} {a : α} (h : l[0]? = some a) : ∃ rest, l = a :: rest := by
  cases l with
  | nil => simp at h
  | cons x xs => exact ⟨xs, by simp at h; rw [h]⟩

theorem args_cons2 {args : List Bytes} {a b : Bytes} (h0 : args[0]? = some a) (h1 : args[1]? = some b) :
    ∃ rest, args = a :: b :: rest := by
  obtain ⟨r, rfl⟩ := cons_of_getElem?_zero h0
  obtain ⟨r', rfl⟩ := cons_of_getElem?_zero (l := r) (by simpa using h1)
  exact ⟨r', rfl⟩

theorem args_cons3' {args : List Bytes} {a b d : Bytes} (h0 : args[0]? = some a) (h1 : args[1]? = some b)
    (h2 : args[2]? = some d) : ∃ rest, args = a :: b :: d :: rest := by
  obtain ⟨r, rfl⟩ := args_cons2 h0 h1
  obtain ⟨r', rfl⟩ := cons_of_getElem?_zero (l := r) (by simpa using h2)
  exact ⟨r', rfl⟩

theorem args_cons4 {args : List Bytes} {a b d e : Bytes} (h0 : args[0]? = some a) (h1 : args[1]? = some b)
    (h2 : args[2]? = some d) (h3 : args[3]? = some e) : ∃ rest, args = a :: b :: d :: e :: rest := by
  obtain ⟨r, rfl⟩ := args_cons3' h0 h1 h2
  obtain ⟨r', rfl⟩ := cons_of_getElem?_zero (l := r) (by simpa using h3)
  exact ⟨r', rfl⟩

/-! ### the world -/

structure Msg where
  caller : Bytes
  rcv : Bytes
  tok : Bytes
  amt : Bytes
  refund : Bool        -- travelling back to `caller` after a failed delivery
deriving DecidableEq

structure NWorld where
  shards : List Accts  -- index = shard id
  inflight : List Msg

def Msg.key (m : Msg) : Bytes := esdtKeyPrefix ++ m.tok

/-- amount in flight under storage key `k` -/
def flightAt (ms : List Msg) (k : Bytes) : Int :=
  (ms.map fun m => if m.key = k then (beNat m.amt : Int) else 0).sum

/-- the per-key supply of the world -/
def supply (w : NWorld) (k : Bytes) : Int := (w.shards.map (balAt · k)).sum + flightAt w.inflight k

def deliveryCall (m : Msg) : Call :=
  { fn := fnESDTTransfer, caller := m.caller, rcv := m.rcv, args := [m.tok, m.amt] }

def refundCall (m : Msg) : Call :=
  { fn := fnESDTTransfer, caller := m.rcv, rcv := m.caller, args := [m.tok, m.amt], callType := 2, rae := true }

/-- run the transfer on shard `s`; failed calls are rolled back (`none`) -/
def runOn (e : Env) (w : NWorld) (s : Nat) (c : Call) : Option Accts :=
  match w.shards[s]? with
  | none => none
  | some A =>
    match esdtTransfer { e with self := s } c { accts := A } with
    | .ok (_, ctx') => some ctx'.accts
    | _ => none

def nstep (e : Env) (w : NWorld) : NStep → NWorld
  | .user c =>
    let s := shardOf e.nshards c.caller
    match runOn e w s c with
    | none => w
    | some A' =>
      let w' : NWorld := { w with shards := w.shards.set s A' }
      if present e.nshards s c.rcv then w'
      else match c.args with
        | tok :: amt :: _ =>
          { w' with inflight := w'.inflight ++ [{ caller := c.caller, rcv := c.rcv, tok := tok, amt := amt, refund := false }] }
        | _ => w'
  | .deliver i =>
    match w.inflight[i]? with
    | none => w
    | some m =>
      if m.refund then w else
      match runOn e w (shardOf e.nshards m.rcv) (deliveryCall m) with
      | some A' => { shards := w.shards.set (shardOf e.nshards m.rcv) A', inflight := w.inflight.eraseIdx i }
      | none => { w with inflight := w.inflight.set i { m with refund := true } }
  | .refund i =>
    match w.inflight[i]? with
    | none => w
    | some m =>
      if !m.refund then w else
      match runOn e w (shardOf e.nshards m.caller) (refundCall m) with
      | some A' => { shards := w.shards.set (shardOf e.nshards m.caller) A', inflight := w.inflight.eraseIdx i }
      | none => w

def nrun (e : Env) : List NStep → NWorld → NWorld
  | [], w => w
  | s :: rest, w => nrun e rest (nstep e w s)

end Esdt

namespace Esdt

/-! ### the invariant -/

/-- what a message in flight is worth under storage key `k` -/
def Msg.contrib (m : Msg) (k : Bytes) : Int := if m.key = k then (beNat m.amt : Int) else 0

/-- an in-flight message travels between two different shards and was not sent by the system account -/
def MsgOK (e : Env) (m : Msg) : Prop :=
  m.caller ≠ systemAccountAddress ∧ present e.nshards (shardOf e.nshards m.caller) m.rcv = false

structure WorldInv (e : Env) (w : NWorld) : Prop where
  nodup : ∀ A ∈ w.shards, A.Nodup
  msgs : ∀ m ∈ w.inflight, MsgOK e m

/-- every stored value of every shard is shorter than 2^63 bytes -/
def ShortW (w : NWorld) : Prop := ∀ A ∈ w.shards, Short A

/-- user transactions considered: not sent by the system account, not to oneself -/
def NStepOK : NStep → Prop
  | .user c => c.caller ≠ systemAccountAddress ∧ c.caller ≠ c.rcv
  | _ => True

theorem present_self (n : Nat) (a : Bytes) : present n (shardOf n a) a = true := by simp [present]

theorem runOn_some {e : Env} {w : NWorld} {s : Nat} {c : Call} {A' : Accts} (h : runOn e w s c = some A') :
    ∃ A out ctx', w.shards[s]? = some A ∧ esdtTransfer { e with self := s } c { accts := A } = .ok (out, ctx') ∧
      ctx'.accts = A' := by
  unfold runOn at h
  split at h
  · cases h
  · rename_i A hA
    split at h
    · rename_i out ctx' he
      cases h
      exact ⟨A, out, ctx', hA, he, rfl⟩
    · cases h

theorem getElem?_mem {α : Type} {l : List α} {i : Nat} {x : α} (h : l[i]? = some x) : x ∈ l :=
  List.mem_of_getElem? h

theorem shortW_get {w : NWorld} (h : ShortW w) {s : Nat} {A : Accts} (hs : w.shards[s]? = some A) : Short A :=
  h A (List.mem_of_getElem? hs)

/-! ### the world as a wire -/

def ftWire : Wire Msg where
  fn := esdtTransfer
  emit e c _ :=
    if present e.nshards (shardOf e.nshards c.caller) c.rcv then []
    else match c.args with
      | tok :: amt :: _ => [{ caller := c.caller, rcv := c.rcv, tok := tok, amt := amt, refund := false }]
      | _ => []
  refund := (·.refund)
  bounce m := { m with refund := true }
  dcall := deliveryCall
  rcall := refundCall

theorem nstep_move (e : Env) (w : NWorld) (st : NStep) :
    ftWire.Move e w.shards w.inflight st (nstep e w st).shards (nstep e w st).inflight := by
  cases st with
  | user c =>
    simp only [nstep]
    cases hr : runOn e w (shardOf e.nshards c.caller) c with
    | none => exact .stay
    | some A' =>
      obtain ⟨A, out, ctx', hA, hex, rfl⟩ := runOn_some hr
      have hmv := Wire.Move.sent (W := ftWire) (M := w.inflight) ⟨hA, hex⟩
      simp only []
      by_cases hd : present e.nshards (shardOf e.nshards c.caller) c.rcv = true
      · have he : ftWire.emit e c out = [] := by simp only [ftWire, hd, if_true]
        rw [he, List.append_nil] at hmv
        rw [if_pos hd]
        exact hmv
      · have he : ftWire.emit e c out = match c.args with
            | tok :: amt :: _ => [{ caller := c.caller, rcv := c.rcv, tok := tok, amt := amt, refund := false }]
            | _ => [] := by simp only [ftWire, if_neg hd]
        rw [he] at hmv
        rw [if_neg hd]
        split <;> simp_all
  | deliver i =>
    simp only [nstep]
    cases hm : w.inflight[i]? with
    | none => exact .stay
    | some m =>
      simp only []
      cases hrf : m.refund
      · simp only [Bool.false_eq_true, if_false]
        cases hr : runOn e w (shardOf e.nshards m.rcv) (deliveryCall m) with
        | none => exact .bounced hm hrf
        | some A' =>
          obtain ⟨A, out, ctx', hA, hex, rfl⟩ := runOn_some hr
          exact .arrived hm (.deliver hrf) ⟨hA, hex⟩
      · exact .stay
  | refund i =>
    simp only [nstep]
    cases hm : w.inflight[i]? with
    | none => exact .stay
    | some m =>
      simp only []
      cases hrf : m.refund
      · exact .stay
      · simp only [Bool.not_true, Bool.false_eq_true, if_false]
        cases hr : runOn e w (shardOf e.nshards m.caller) (refundCall m) with
        | none => exact .stay
        | some A' =>
          obtain ⟨A, out, ctx', hA, hex, rfl⟩ := runOn_some hr
          exact .arrived hm (.refund hrf) ⟨hA, hex⟩

/-- the call a message arrives as runs where its receiver lives and its caller does not, with the message's arguments -/
theorem MsgOK.leg {e : Env} {m : Msg} {st : NStep} {i : Nat} {c : Call} (h : MsgOK e m) (hl : ftWire.Leg m st i c) :
    present e.nshards (shardOf e.nshards c.rcv) c.caller = false ∧ c.args = [m.tok, m.amt] := by
  cases hl with
  | refund => exact ⟨h.2, rfl⟩
  | deliver =>
    obtain ⟨h1, h2⟩ := h
    simp only [present, Bool.or_eq_false_iff, beq_eq_false_iff_ne, ne_eq] at h2 ⊢
    exact ⟨⟨h1, fun e' => h2.2 e'.symm⟩, rfl⟩

end Esdt

namespace Esdt

/-- one step of the world keeps the invariant and the supply of every storage key -/
theorem nstep_supply (e : Env) (w : NWorld) (st : NStep) (hI : WorldInv e w) (hok : NStepOK st)
    (hS : ShortW (nstep e w st)) (k : Bytes) :
    supply (nstep e w st) k = supply w k ∧ WorldInv e (nstep e w st) := by
  have hmv := nstep_move e w st
  -- a user transaction: debit and credit on one shard, or debit and a message worth the debit
  have sent : ∀ {c out A ctx'}, st = .user c → Ran ftWire.fn e w.shards (shardOf e.nshards c.caller) c out A ctx' →
      ctx'.accts.Nodup ∧ (∀ m ∈ ftWire.emit e c out, MsgOK e m) ∧
      (Short ctx'.accts → balAt ctx'.accts k + ((ftWire.emit e c out).map (·.contrib k)).sum = balAt A k) := by
    intro c out A ctx' hst hr
    subst hst
    obtain ⟨hsys, hne⟩ := hok
    have hnA := hI.nodup A hr.mem
    have hs : present e.nshards (shardOf e.nshards c.caller) c.caller = true := present_self _ _
    cases hd : present e.nshards (shardOf e.nshards c.caller) c.rcv
    · obtain ⟨tok, amt, t, v, h0, h1, _, hw, _⟩ :=
        (esdtTransfer_senderOnly_effect { e with self := shardOf e.nshards c.caller } c { accts := A } hs hd).elim hr.run
      obtain ⟨rest, hargs⟩ := args_cons2 h0 h1
      have he : ftWire.emit e c out = [{ caller := c.caller, rcv := c.rcv, tok := tok, amt := amt, refund := false }] := by
        simp only [ftWire, hd, hargs, Bool.false_eq_true, if_false]
      rw [he]
      refine ⟨hw.nodup hnA, fun m hm => ?_, fun hS' => ?_⟩
      · rw [List.mem_singleton.mp hm]; exact ⟨hsys, hd⟩
      · rw [hw.balAt hnA (hS' _ _) k]
        simp only [List.map_cons, List.map_nil, List.sum_cons, List.sum_nil, Msg.contrib, Msg.key]
        by_cases hk : esdtKeyPrefix ++ tok = k <;> simp only [hk, if_true, if_false] <;> omega
    · obtain ⟨tok, amt, t, v, A1, t2, v2, _, _, _, hw1, hw2, _⟩ :=
        (esdtTransfer_sameShard_effect { e with self := shardOf e.nshards c.caller } c { accts := A } hs hd).elim hr.run
      have he : ftWire.emit e c out = [] := by simp only [ftWire, hd, if_true]
      rw [he]
      refine ⟨hw2.nodup (hw1.nodup hnA), fun _ hm => (List.not_mem_nil hm).elim, fun hS' => ?_⟩
      have hkeep : ctx'.accts.read c.caller (esdtKeyPrefix ++ tok) = A1.read c.caller (esdtKeyPrefix ++ tok) :=
        hw2.others _ _ (fun ⟨e', _⟩ => hne e'.symm)
      rw [hw2.balAt (hw1.nodup hnA) (hS' _ _) k, hw1.balAt hnA (by rw [← hkeep]; exact hS' _ _) k]
      simp only [List.map_nil, List.sum_nil]
      split <;> omega
  -- a delivery or a refund: the credit of what the message is worth
  have arrived : ∀ {i m c out A ctx'}, m ∈ w.inflight → ftWire.Leg m st i c →
      Ran ftWire.fn e w.shards (shardOf e.nshards c.rcv) c out A ctx' →
      ctx'.accts.Nodup ∧ (Short ctx'.accts → balAt ctx'.accts k = balAt A k + m.contrib k) := by
    intro i m c out A ctx' hm hl hr
    have hnA := hI.nodup A hr.mem
    obtain ⟨hs, hargs⟩ := (hI.msgs m hm).leg hl
    obtain ⟨tok, amt, t2, v2, h0, h1, _, hw, _⟩ :=
      (esdtTransfer_destOnly_effect { e with self := shardOf e.nshards c.rcv } c { accts := A } hs (present_self _ _)).elim
        hr.run
    rw [hargs] at h0 h1
    cases h0; cases h1
    exact ⟨hw.nodup hnA, fun hS' => by rw [hw.balAt hnA (hS' _ _) k]; rfl⟩
  obtain ⟨h1, h2⟩ := hmv.all hI.nodup hI.msgs (fun hs hr => ⟨(sent hs hr).1, (sent hs hr).2.1⟩)
    (fun hm hl hr => (arrived hm hl hr).1) (fun m hm _ => hI.msgs m hm)
  exact ⟨hmv.sum (balAt · k) (·.contrib k) (fun hs hr hS' => (sent hs hr).2.2 (hS _ hS'))
    (fun hm hl hr hS' => (arrived hm hl hr).2 (hS _ hS')) (fun _ _ => rfl), h1, h2⟩

/-- stored values stay shorter than 2^63 bytes (every write is a marshalled token) -/
theorem nstep_short (e : Env) (w : NWorld) (st : NStep) (hS : ShortW w) : ShortW (nstep e w st) :=
  have short : ∀ {s c out A ctx'}, Ran ftWire.fn e w.shards s c out A ctx' → Short ctx'.accts := fun hr =>
    (short_runFn .esdtTransfer _ _ nofun { accts := _ } (hS _ hr.mem)).elim hr.run
  ((nstep_move e w st).all (Q := fun _ => True) hS (fun _ _ => trivial) (fun _ hr => ⟨short hr, fun _ _ => trivial⟩)
    (fun _ _ hr => short hr) (fun _ _ _ => trivial)).1

theorem nrun_supply (e : Env) : ∀ (steps : List NStep) (w : NWorld), WorldInv e w → (∀ s ∈ steps, NStepOK s) →
    ShortW w → ∀ k, supply (nrun e steps w) k = supply w k ∧ WorldInv e (nrun e steps w)
  | [], _, hI, _, _, _ => ⟨rfl, hI⟩
  | s :: rest, w, hI, hok, hS, k => by
    have hS1 := nstep_short e w s hS
    obtain ⟨h1, hI1⟩ := nstep_supply e w s hI (hok s List.mem_cons_self) hS1 k
    obtain ⟨h2, hI2⟩ := nrun_supply e rest (nstep e w s) hI1 (fun s' hs' => hok s' (List.mem_cons_of_mem _ hs')) hS1 k
    exact ⟨h2.trans h1, hI2⟩

end Esdt
