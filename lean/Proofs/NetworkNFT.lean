/-
  Proofs/NetworkNFT.lean — the world of shards with in-flight messages for ESDTNFTTransfer (single NFT / SFT transfers):
  per storage key, Σ_shards Σ_accounts quantity + Σ_in-flight payload quantity is invariant under every history of
  transfers, deliveries and refunds.
-/
import Proofs.Network
import Proofs.Parsers
namespace Esdt

/-- metadata stored under any token key carries a non-zero nonce (what ESDTNFTCreate produces; an entry whose metadata said
    nonce 0 would be re-saved under the key WITHOUT the nonce suffix) -/
def MdPos (A : Accts) : Prop :=
  ∀ a k t m, TokKey k → A.read a k ≠ [] → decToken (A.read a k) = some t → t.md = some m → m.nonce ≠ 0

/-- the sender-side cross-shard effect with two more facts: the entry belongs to the nonce asked for (or says nonce 0),
    and the payload put on the wire is shorter than 2^63 bytes -/
theorem nftTransferSender_crossShard_effect_len (env : Env) (c : Call) (ctx : Ctx)
    (hs : present env.nshards env.self c.caller = true)
    (hx : ∀ d, c.args[3]? = some d → env.self ≠ shardOf env.nshards d) :
    Post (esdtNFTTransferSender env c) ctx (fun out ctx' => ∃ tok nb qb dst t v, c.args[0]? = some tok ∧
      c.args[1]? = some nb ∧ c.args[2]? = some qb ∧ c.args[3]? = some dst ∧ u64 (beNat nb) ≠ 0 ∧ (beNat qb : Int) ≤ v ∧
      NftWrite ctx.accts ctx'.accts c.caller (esdtKeyPrefix ++ tok) (u64 (beNat nb)) t v (v - beNat qb) ∧
      (∀ m, t.md = some m → m.nonce = 0 ∨ m.nonce = u64 (beNat nb)) ∧
      (encToken { t with value := some (beNat qb : Int) }).length < two63 ∧
      ∃ tr, out.outAccts = [{ addr := dst, transfers := [tr] }] ∧
        tr.data = encodeCall fnESDTNFTTransfer (c.args.take 3 ++ [encToken { t with value := some (beNat qb : Int) }] ++
          (if c.args.length > 4 then c.args.drop 4 else []))) := by
  unfold esdtNFTTransferSender
  simp only [hs, Bool.not_true, Bool.false_eq_true, if_false]
  xsteps
  apply Post.mono (spec_getNFTOnSender _ _ _ ctx)
  intro t c1 ⟨h1, hne, hdec, hmd, hnon⟩
  xsteps
  apply Post.mono (spec_saveNFT _ _ _ _ c1)
  intro _ c2 ⟨_, _, _, _, h2⟩
  have hxx := hx _ ‹c.args[3]? = some _›
  simp only [hxx, decide_false, Bool.false_eq_true, if_false, Bool.not_false, if_true]
  xsteps
  apply Post.pure
  xsteps
  apply Post.mono (spec_marshalToken_len _ c2)
  intro b c3 ⟨h3, hb, hbl⟩
  xsteps
  apply Post.pure
  xsteps
  apply Post.pure
  have hn0 := of_decide_eq_false ‹decide (u64 (beNat _) = 0) = false›
  refine ⟨_, _, _, _, t, _, ‹c.args[0]? = some _›, ‹c.args[1]? = some _›, ‹c.args[2]? = some _›, ‹c.args[3]? = some _›,
    hn0, by simpa using ‹decide (_ < (beNat _ : Int)) = false›,
    ⟨hne, hdec, hmd (Nat.pos_of_ne_zero hn0), ‹t.value = some _›, ?_⟩, hnon, by rw [← hb]; exact hbl, ?_⟩
  · rw [h3, h2, h1]; rfl
  · subst hb
    split <;> exact ⟨_, rfl, rfl⟩

theorem nftStoredForm_cases' (t : Token) :
    (nftStoredForm t = [] ∧ ∀ v, t.value = some v → v ≤ 0) ∨ nftStoredForm t = encToken t := by
  unfold nftStoredForm
  split
  · rename_i v hv
    split
    · rename_i hle; exact Or.inl ⟨rfl, fun v' hv' => by rw [hv] at hv'; cases hv'; exact hle⟩
    · exact Or.inr rfl
  · rename_i hn; exact Or.inl ⟨rfl, fun v' hv' => by rw [hv'] at hn; cases hn⟩

/-- reading back what `saveESDTNFTToken` stored, from the length bound alone -/
theorem balOf_nftStoredForm_len (t : Token) (v : Int) (hv : t.value = some v) (hnn : 0 ≤ v) (hn : NumOK t)
    (hl : (nftStoredForm t).length < two63) : balOf (nftStoredForm t) = v := by
  rcases nftStoredForm_cases' t with ⟨he, hz⟩ | he
  · rw [he, balOf_nil]; have := hz v hv; omega
  · rw [he] at hl ⊢
    simp [balOf, tokenOf, encToken_ne_nil, roundtrip_of_length t hn hl, hv]

theorem balOf_dec {raw : Bytes} {t : Token} {v : Int} (hne : raw ≠ []) (hdec : decToken raw = some t)
    (hv : t.value = some v) : balOf raw = v := by
  simp [balOf, tokenOf, hne, hdec, hv]

end Esdt

namespace Esdt

/-- NftWrite with the entry's nonce pinned: the shard's per-key sum moves by `v' − v` under the entry's key -/
theorem NftWrite.balAt {A A' : Accts} {a tok : Bytes} {n : Nat} {t : Token} {v v' : Int}
    (h : NftWrite A A' a (esdtKeyPrefix ++ tok) n t v v') (hn : A.Nodup) (hnon : mdNonce t = n) (h0 : 0 ≤ v')
    (hS : Short A') (k2 : Bytes) :
    Esdt.balAt A' k2 = Esdt.balAt A k2 + (if nftKey (esdtKeyPrefix ++ tok) n = k2 then v' - v else 0) := by
  have hw := h.written
  rw [hnon] at hw
  have hl := hS a (nftKey (esdtKeyPrefix ++ tok) n)
  rw [hw, Accts.read_write, if_pos ⟨rfl, rfl⟩] at hl
  rw [hw, balAt_write A hn]
  split
  · rw [balOf_nftStoredForm_len _ v' rfl h0 ((decToken_num _ _ h.old).withValue _) hl,
      balOf_dec h.present h.old h.value]
  · rfl

theorem NftWrite.nodup {A A' : Accts} {a tk : Bytes} {n : Nat} {t : Token} {v v' : Int}
    (h : NftWrite A A' a tk n t v v') (hn : A.Nodup) : A'.Nodup := by
  rw [h.written]; exact Accts.write_nodup A hn _ _ _

/-- a credit through `addNFTToDestination` (as its specification describes it): the per-key sum of the shard rises by the
    transferred quantity under the key built from the transferred token's own nonce -/
theorem credit_balAt {A A' : Accts} (hn : A.Nodup) (dst tk : Bytes) (t cur : Token) (tv cv : Int)
    (hcur : tokenOf (A.read dst (nftKey tk (mdNonce t))) = some cur) (hcv : cur.value = some cv) (h0 : 0 ≤ tv + cv)
    (hnum : NumOK t)
    (hw : A' = A.write dst (nftKey tk (mdNonce t)) (nftStoredForm { t with value := some (tv + cv) }))
    (hS : Short A') (k2 : Bytes) :
    balAt A' k2 = balAt A k2 + (if nftKey tk (mdNonce t) = k2 then tv else 0) := by
  have hl := hS dst (nftKey tk (mdNonce t))
  rw [hw, Accts.read_write, if_pos ⟨rfl, rfl⟩] at hl
  rw [hw, balAt_write A hn]
  split
  · rw [balOf_nftStoredForm_len _ (tv + cv) rfl h0 (hnum.withValue _) hl]
    have : balOf (A.read dst (nftKey tk (mdNonce t))) = cv := by simp [balOf, hcur, hcv]
    rw [this]; omega
  · rfl

end Esdt

namespace Esdt

/-! ### the world -/

structure NMsg where
  caller : Bytes
  rcv : Bytes
  tok : Bytes
  nb : Bytes
  qb : Bytes
  payload : Bytes
  refund : Bool

structure NFTWorld where
  shards : List Accts
  inflight : List NMsg

/-- storage key and quantity of the entry a message carries (read off its payload) -/
def NMsg.key (m : NMsg) : Bytes :=
  match decToken m.payload with
  | some t => nftKey (esdtKeyPrefix ++ m.tok) (mdNonce t)
  | none => []
def NMsg.amt (m : NMsg) : Int :=
  match decToken m.payload with
  | some t => t.value.getD 0
  | none => 0
def NMsg.contrib (m : NMsg) (k : Bytes) : Int := if m.key = k then m.amt else 0

def nflightAt (ms : List NMsg) (k : Bytes) : Int := (ms.map (·.contrib k)).sum

def nsupply (w : NFTWorld) (k : Bytes) : Int := (w.shards.map (balAt · k)).sum + nflightAt w.inflight k

def nDeliveryCall (m : NMsg) : Call :=
  { fn := fnESDTNFTTransfer, caller := m.caller, rcv := m.rcv, args := [m.tok, m.nb, m.qb, m.payload] }
def nRefundCall (m : NMsg) : Call :=
  { fn := fnESDTNFTTransfer, caller := m.rcv, rcv := m.caller, args := [m.tok, m.nb, m.qb, m.payload],
    callType := 2, rae := true }

/-- the message a successful sender-side call leaves for another shard, read off its output transfer -/
def msgOf (c : Call) (out : VMOutput) : Option NMsg :=
  match out.outAccts with
  | [oa] =>
    match oa.transfers with
    | [tr] =>
      match parseCall tr.data with
      | .ok (_, tok :: nb :: qb :: payload :: _) =>
        some { caller := c.caller, rcv := oa.addr, tok := tok, nb := nb, qb := qb, payload := payload, refund := false }
      | _ => none
    | _ => none
  | _ => none

def runNFT (e : Env) (shards : List Accts) (s : Nat) (c : Call) : Option (VMOutput × Accts) :=
  match shards[s]? with
  | none => none
  | some A =>
    match esdtNFTTransfer { e with self := s } c { accts := A } with
    | .ok (out, ctx') => some (out, ctx'.accts)
    | _ => none

def nftStep (e : Env) (w : NFTWorld) : NStep → NFTWorld
  | .user c =>
    let s := shardOf e.nshards c.caller
    match runNFT e w.shards s c with
    | none => w
    | some (out, A') =>
      let shards' := w.shards.set s A'
      match c.args[3]? with
      | some dst =>
        if s = shardOf e.nshards dst then { w with shards := shards' }
        else { shards := shards', inflight := w.inflight ++ (msgOf c out).toList }
      | none => { w with shards := shards' }
  | .deliver i =>
    match w.inflight[i]? with
    | none => w
    | some m =>
      if m.refund then w else
      match runNFT e w.shards (shardOf e.nshards m.rcv) (nDeliveryCall m) with
      | some (_, A') => { shards := w.shards.set (shardOf e.nshards m.rcv) A', inflight := w.inflight.eraseIdx i }
      | none => { w with inflight := w.inflight.set i { m with refund := true } }
  | .refund i =>
    match w.inflight[i]? with
    | none => w
    | some m =>
      if !m.refund then w else
      match runNFT e w.shards (shardOf e.nshards m.caller) (nRefundCall m) with
      | some (_, A') => { shards := w.shards.set (shardOf e.nshards m.caller) A', inflight := w.inflight.eraseIdx i }
      | none => w

def nftRun (e : Env) : List NStep → NFTWorld → NFTWorld
  | [], w => w
  | s :: rest, w => nftRun e rest (nftStep e w s)

/-! ### invariants -/

structure SInv (A : Accts) : Prop where
  nodup : A.Nodup
  canon : Canon A
  short : Short A
  mdpos : MdPos A

structure NMsgOK (e : Env) (m : NMsg) : Prop where
  notSys : m.caller ≠ systemAccountAddress
  cross : present e.nshards (shardOf e.nshards m.caller) m.rcv = false
  payload : ∃ t q, decToken m.payload = some t ∧ t.value = some q ∧ 0 ≤ q ∧ ∀ md, t.md = some md → md.nonce ≠ 0

structure NWorldInv (e : Env) (w : NFTWorld) : Prop where
  shards : ∀ A ∈ w.shards, SInv A
  msgs : ∀ m ∈ w.inflight, NMsgOK e m
  sysFree : True

/-- transactions considered: the sender-side form (caller = receiver, destination in the arguments), not from the system
    account, destination not the system account -/
def NFTStepOK : NStep → Prop
  | .user c => c.caller = c.rcv ∧ c.caller ≠ systemAccountAddress ∧ ∀ d, c.args[3]? = some d → d ≠ systemAccountAddress
  | _ => True

theorem runNFT_some {e : Env} {shards : List Accts} {s : Nat} {c : Call} {out : VMOutput} {A' : Accts}
    (h : runNFT e shards s c = some (out, A')) :
    ∃ A ctx', shards[s]? = some A ∧ esdtNFTTransfer { e with self := s } c { accts := A } = .ok (out, ctx') ∧
      ctx'.accts = A' :=
  runShard_some (fn := esdtNFTTransfer) h

/-! ### the world as a wire -/

def nftWire : Wire NMsg where
  fn := esdtNFTTransfer
  emit e c out :=
    match c.args[3]? with
    | some dst => if shardOf e.nshards c.caller = shardOf e.nshards dst then [] else (msgOf c out).toList
    | none => []
  refund := (·.refund)
  bounce m := { m with refund := true }
  dcall := nDeliveryCall
  rcall := nRefundCall

theorem nftStep_move (e : Env) (w : NFTWorld) (st : NStep) :
    nftWire.Move e w.shards w.inflight st (nftStep e w st).shards (nftStep e w st).inflight := by
  cases st with
  | user c =>
    simp only [nftStep]
    cases hr : runNFT e w.shards (shardOf e.nshards c.caller) c with
    | none => exact .stay
    | some p =>
      obtain ⟨out, A'⟩ := p
      obtain ⟨A, ctx', hA, hex, rfl⟩ := runNFT_some hr
      have hmv := Wire.Move.sent (W := nftWire) (M := w.inflight) ⟨hA, hex⟩
      simp only []
      cases h3 : c.args[3]? with
      | none =>
        have he : nftWire.emit e c out = [] := by simp only [nftWire, h3]
        rw [he, List.append_nil] at hmv
        exact hmv
      | some dst =>
        simp only []
        by_cases hx : shardOf e.nshards c.caller = shardOf e.nshards dst
        · have he : nftWire.emit e c out = [] := by simp only [nftWire, h3, if_pos hx]
          rw [he, List.append_nil] at hmv
          rw [if_pos hx]
          exact hmv
        · have he : nftWire.emit e c out = (msgOf c out).toList := by simp only [nftWire, h3, if_neg hx]
          rw [he] at hmv
          rw [if_neg hx]
          exact hmv
  | deliver i =>
    simp only [nftStep]
    cases hm : w.inflight[i]? with
    | none => exact .stay
    | some m =>
      simp only []
      cases hrf : m.refund
      · simp only [Bool.false_eq_true, if_false]
        cases hr : runNFT e w.shards (shardOf e.nshards m.rcv) (nDeliveryCall m) with
        | none => exact .bounced hm hrf
        | some p =>
          obtain ⟨out, A'⟩ := p
          obtain ⟨A, ctx', hA, hex, rfl⟩ := runNFT_some hr
          exact .arrived hm (.deliver hrf) ⟨hA, hex⟩
      · exact .stay
  | refund i =>
    simp only [nftStep]
    cases hm : w.inflight[i]? with
    | none => exact .stay
    | some m =>
      simp only []
      cases hrf : m.refund
      · exact .stay
      · simp only [Bool.not_true, Bool.false_eq_true, if_false]
        cases hr : runNFT e w.shards (shardOf e.nshards m.caller) (nRefundCall m) with
        | none => exact .stay
        | some p =>
          obtain ⟨out, A'⟩ := p
          obtain ⟨A, ctx', hA, hex, rfl⟩ := runNFT_some hr
          exact .arrived hm (.refund hrf) ⟨hA, hex⟩

end Esdt

namespace Esdt

theorem mdpos_write_nft {A : Accts} (a k : Bytes) (t' : Token) (hA : MdPos A) (hn : NumOK t')
    (hl : (nftStoredForm t').length < two63) (hmd : ∀ m, t'.md = some m → m.nonce ≠ 0) :
    MdPos (A.write a k (nftStoredForm t')) := by
  intro a2 k2 t0 m hk2 hne hdec hm
  rw [Accts.read_write] at hne hdec
  split at hne
  · rename_i he
    rw [if_pos he] at hdec
    rcases nftStoredForm_cases' t' with ⟨he0, _⟩ | he1
    · exact absurd he0 hne
    · rw [he1] at hdec hl
      rw [roundtrip_of_length t' hn hl] at hdec
      cases hdec
      exact hmd m hm
  · rename_i he
    rw [if_neg he] at hdec
    exact hA a2 k2 t0 m hk2 hne hdec hm

theorem mdNonce_withValue (t : Token) (v : Option Int) : mdNonce { t with value := v } = mdNonce t := rfl

/-- under `MdPos` an entry the sender-side lookup accepted for nonce `n` is the entry OF nonce `n` -/
theorem ownNonce {A : Accts} {a tk : Bytes} {n : Nat} {t : Token} (hA : MdPos A) (hk : TokKey (nftKey tk n))
    (hne : A.read a (nftKey tk n) ≠ []) (hdec : decToken (A.read a (nftKey tk n)) = some t)
    (hsome : 0 < n → t.md.isSome = true) (hnon : ∀ m, t.md = some m → m.nonce = 0 ∨ m.nonce = n) : mdNonce t = n := by
  cases hm : t.md with
  | none =>
    rcases Nat.eq_zero_or_pos n with h0 | h0
    · simp [mdNonce, hm, h0]
    · have := hsome h0; rw [hm] at this; cases this
  | some m =>
    rcases hnon m hm with hz | hz
    · exact absurd hz (hA a _ t m hk hne hdec hm)
    · simp [mdNonce, hm, hz]

theorem NftWrite.ownNonce {A A' : Accts} {a tok : Bytes} {n : Nat} {t : Token} {v v' : Int}
    (h : NftWrite A A' a (esdtKeyPrefix ++ tok) n t v v') (hA : MdPos A)
    (hnon : ∀ m, t.md = some m → m.nonce = 0 ∨ m.nonce = n) : mdNonce t = n :=
  Esdt.ownNonce hA (tokKey_nft _ _) h.present h.old (fun _ => h.hasMeta) hnon

/-! ### one slot rewritten on a well-formed shard -/

/-- an entry rewritten under the key of its own nonce with a new non-negative quantity: the shard stays well-formed and its
    per-key sum moves, under that key, by the difference to what the slot held -/
theorem nftSlot_step {A A' : Accts} (hI : SInv A) (a tok : Bytes) (t : Token) (x : Int) (hx : 0 ≤ x) (hnum : NumOK t)
    (hmd : ∀ md, t.md = some md → md.nonce ≠ 0)
    (hw : A' = A.write a (nftKey (esdtKeyPrefix ++ tok) (mdNonce t)) (nftStoredForm { t with value := some x }))
    (hS : Short A') :
    SInv A' ∧ ∀ k, balAt A' k = balAt A k + (if nftKey (esdtKeyPrefix ++ tok) (mdNonce t) = k then
      x - balOf (A.read a (nftKey (esdtKeyPrefix ++ tok) (mdNonce t))) else 0) := by
  have hl := hS a (nftKey (esdtKeyPrefix ++ tok) (mdNonce t))
  rw [hw, Accts.read_write, if_pos ⟨rfl, rfl⟩] at hl
  refine ⟨⟨by rw [hw]; exact Accts.write_nodup _ hI.nodup _ _ _, CanonM.toCanon ?_ hS, hS, ?_⟩, fun k => ?_⟩
  · rw [hw]
    exact canon_write _ _ _ hI.canon.toM fun _ _ =>
      entryWF_nftStoredForm _ _ (nftKey_matches tok t) (hnum.withValue _)
  · rw [hw]; exact mdpos_write_nft _ _ _ hI.mdpos (hnum.withValue _) hl hmd
  · rw [hw, balAt_write A hI.nodup]
    split
    · rw [balOf_nftStoredForm_len _ x rfl hx (hnum.withValue _) hl]
    · rfl

/-- a credit through `addNFTToDestination` (as its specification describes it): the shard's per-key sum rises by the
    transferred quantity under the key built from the transferred token's own nonce -/
theorem nftCredit_step {A A' : Accts} (hI : SInv A) (dst tok : Bytes) (hdsys : dst ≠ systemAccountAddress) (t cur : Token)
    (tv cv : Int) (hcur : tokenOf (A.read dst (nftKey (esdtKeyPrefix ++ tok) (mdNonce t))) = some cur)
    (hcv : cur.value = some cv) (htv : 0 ≤ tv) (hnum : NumOK t) (hmd : ∀ md, t.md = some md → md.nonce ≠ 0)
    (hw : A' = A.write dst (nftKey (esdtKeyPrefix ++ tok) (mdNonce t)) (nftStoredForm { t with value := some (tv + cv) }))
    (hS : Short A') :
    SInv A' ∧ ∀ k, balAt A' k = balAt A k + (if nftKey (esdtKeyPrefix ++ tok) (mdNonce t) = k then tv else 0) := by
  have hcv0 : 0 ≤ cv := by
    obtain ⟨⟨v', hv', h0'⟩, _⟩ := hI.canon.read (tokKey_nft tok _) hdsys hcur
    rw [hcv] at hv'; cases hv'; exact h0'
  obtain ⟨hI', hb⟩ := nftSlot_step hI dst tok t (tv + cv) (by omega) hnum hmd hw hS
  refine ⟨hI', fun k => ?_⟩
  have : balOf (A.read dst (nftKey (esdtKeyPrefix ++ tok) (mdNonce t))) = cv := by simp [balOf, hcur, hcv]
  rw [hb k, this]
  split <;> omega

/-- a quantity moved between two accounts of one shard (a debit, then a credit of the same entry): the shard stays
    well-formed and its per-key sums are what they were -/
theorem nftMove_step {A A1 A' : Accts} (hI : SInv A) (src dst tok : Bytes) (hne : dst ≠ src)
    (hdsys : dst ≠ systemAccountAddress) (t cur : Token) (v q cv : Int)
    (hold : balOf (A.read src (nftKey (esdtKeyPrefix ++ tok) (mdNonce t))) = v) (hq : 0 ≤ q) (hqv : q ≤ v)
    (hnum : NumOK t) (hmd : ∀ md, t.md = some md → md.nonce ≠ 0)
    (hA1 : A1 = A.write src (nftKey (esdtKeyPrefix ++ tok) (mdNonce t)) (nftStoredForm { t with value := some (v - q) }))
    (hcur : tokenOf (A1.read dst (nftKey (esdtKeyPrefix ++ tok) (mdNonce t))) = some cur) (hcv : cur.value = some cv)
    (hw : A' = A1.write dst (nftKey (esdtKeyPrefix ++ tok) (mdNonce t)) (nftStoredForm { t with value := some (q + cv) }))
    (hS : Short A') : SInv A' ∧ ∀ k, balAt A' k = balAt A k := by
  -- the debited slot is still there in `A'` (the credit went to another account), so it is short
  have hl1 := hS src (nftKey (esdtKeyPrefix ++ tok) (mdNonce t))
  rw [hw, Accts.read_write, if_neg (fun ⟨e, _⟩ => hne e), hA1, Accts.read_write, if_pos ⟨rfl, rfl⟩] at hl1
  have hS1 : Short A1 := by rw [hA1]; exact short_write hI.short _ _ _ hl1
  obtain ⟨hI1, hb1⟩ := nftSlot_step hI src tok t (v - q) (by omega) hnum hmd hA1 hS1
  obtain ⟨hI', hb2⟩ := nftCredit_step hI1 dst tok hdsys t cur q cv hcur hcv hq hnum hmd hw hS
  refine ⟨hI', fun k => ?_⟩
  rw [hb2 k, hb1 k, hold]
  split <;> omega

/-- sender side, destination on another shard: what happens to one shard and which message leaves it -/
theorem nft_user_cross (env : Env) (c : Call) (A : Accts) (out : VMOutput) (ctx' : Ctx) (hI : SInv A)
    (hs : present env.nshards env.self c.caller = true)
    (hx : ∀ d, c.args[3]? = some d → env.self ≠ shardOf env.nshards d)
    (h : esdtNFTTransferSender env c { accts := A } = .ok (out, ctx')) (hS' : Short ctx'.accts) (k : Bytes) :
    ∃ m, msgOf c out = some m ∧ m.caller = c.caller ∧ c.args[3]? = some m.rcv ∧
      (∃ t q, decToken m.payload = some t ∧ t.value = some q ∧ 0 ≤ q ∧ ∀ md, t.md = some md → md.nonce ≠ 0) ∧
      balAt ctx'.accts k + m.contrib k = balAt A k ∧ SInv ctx'.accts := by
  obtain ⟨tok, nb, qb, dst, t, v, h0, h1, h2, h3, hn0, hle, hw, hnon, hlen, tr, hout, hdata⟩ :=
    (nftTransferSender_crossShard_effect_len env c { accts := A } hs hx).elim h
  obtain ⟨rest, hargs⟩ := args_cons4 h0 h1 h2 h3
  have hnum : NumOK t := decToken_num _ _ hw.old
  have hmdt : ∀ md, t.md = some md → md.nonce ≠ 0 := fun md hmd =>
    hI.mdpos _ _ t md (tokKey_nft _ _) hw.present hw.old hmd
  have hnonce : mdNonce t = u64 (beNat nb) := hw.ownNonce hI.mdpos hnon
  -- the message
  have hparse : parseCall tr.data = .ok (fnESDTNFTTransfer,
      tok :: nb :: qb :: encToken { t with value := some (beNat qb : Int) } :: rest) := by
    rw [hdata, parseCall_encodeCall _ _ (by decide) (by decide), hargs]
    simp
  let msg : NMsg := { caller := c.caller, rcv := dst, tok := tok, nb := nb, qb := qb,
                      payload := encToken { t with value := some (beNat qb : Int) }, refund := false }
  have hmsg : msgOf c out = some msg := by
    simp only [msgOf, hout, hparse]
    rfl
  have hrt : decToken msg.payload = some { t with value := some (beNat qb : Int) } :=
    roundtrip_of_length _ (hnum.withValue _) hlen
  obtain ⟨hI', hb⟩ := nftSlot_step hI c.caller tok t (v - beNat qb) (by omega) hnum hmdt hw.written hS'
  refine ⟨msg, hmsg, rfl, h3, ⟨_, _, hrt, rfl, by omega, hmdt⟩, ?_, hI'⟩
  have hold : balOf (A.read c.caller (nftKey (esdtKeyPrefix ++ tok) (mdNonce t))) = v := by
    rw [hnonce]; exact balOf_dec hw.present hw.old hw.value
  rw [hb k, hold]
  simp only [NMsg.contrib, NMsg.key, NMsg.amt, hrt, mdNonce_withValue, Option.getD_some]
  split <;> omega

end Esdt

namespace Esdt

/-- the sender-side lookup only accepts an entry whose metadata says the nonce asked for (or nonce 0) -/
theorem nftSender_nonce (env : Env) (c : Call) (ctx : Ctx) (hs : present env.nshards env.self c.caller = true) :
    Post (esdtNFTTransferSender env c) ctx (fun _ _ => ∀ tok nb t m, c.args[0]? = some tok → c.args[1]? = some nb →
      decToken (ctx.accts.read c.caller (nftKey (esdtKeyPrefix ++ tok) (u64 (beNat nb)))) = some t → t.md = some m →
      m.nonce = 0 ∨ m.nonce = u64 (beNat nb)) := by
  unfold esdtNFTTransferSender
  simp only [hs, Bool.not_true, Bool.false_eq_true, if_false]
  xsteps
  rename_i tok0 ha0 _ _ _ _ _ _ nb0 ha1 _
  apply Post.mono (spec_getNFTOnSender _ _ _ ctx)
  intro t c1 ⟨_, _, hdec, _, hnon⟩
  apply Post.intro
  intro _ _ tok nb t' m h0 h1 hdec' hm
  rw [ha0] at h0; cases h0
  rw [ha1] at h1; cases h1
  rw [hdec] at hdec'; cases hdec'
  exact hnon m hm

/-- sender side, destination on the same shard: the shard's per-key sums are unchanged -/
theorem nft_user_same (env : Env) (c : Call) (A : Accts) (out : VMOutput) (ctx' : Ctx) (hI : SInv A)
    (hs : present env.nshards env.self c.caller = true)
    (hx : ∀ d, c.args[3]? = some d → env.self = shardOf env.nshards d)
    (hdsys : ∀ d, c.args[3]? = some d → d ≠ systemAccountAddress)
    (h : esdtNFTTransferSender env c { accts := A } = .ok (out, ctx')) (hS' : Short ctx'.accts) :
    SInv ctx'.accts ∧ ∀ k, balAt ctx'.accts k = balAt A k := by
  obtain ⟨tok, nb, qb, dst, t, v, A1, cur, cv, h0, h1, h2, h3, hn0, hle, hw, hcur, _, hcv, hfin⟩ :=
    (nftTransferSender_sameShard_effect env c { accts := A } hs hx).elim h
  obtain ⟨dst', h3', _, hne, _⟩ := (nftTransferSender_destination_ok env c { accts := A }).elim h
  rw [h3] at h3'; cases h3'
  have hnonce : mdNonce t = u64 (beNat nb) :=
    hw.ownNonce hI.mdpos (fun m hm => (nftSender_nonce env c { accts := A } hs).elim h tok nb t m h0 h1 hw.old hm)
  exact nftMove_step hI c.caller dst tok hne (hdsys dst h3) t cur v (beNat qb) cv
    (by rw [hnonce]; exact balOf_dec hw.present hw.old hw.value) (by omega) hle (decToken_num _ _ hw.old)
    (fun md hmd => hI.mdpos _ _ t md (tokKey_nft _ _) hw.present hw.old hmd) hw.written hcur hcv hfin hS'

/-- destination side (a delivery, or a refund on the origin shard): the carried quantity is credited under the key of the
    payload's own nonce -/
theorem nft_dest (env : Env) (c : Call) (A : Accts) (out : VMOutput) (ctx' : Ctx) (hI : SInv A)
    (hne : c.caller ≠ c.rcv) (hrsys : c.rcv ≠ systemAccountAddress)
    (tok nb qb payload : Bytes) (hargs : c.args = [tok, nb, qb, payload])
    (t : Token) (q : Int) (hdec : decToken payload = some t) (hq : t.value = some q) (hq0 : 0 ≤ q)
    (hmd : ∀ md, t.md = some md → md.nonce ≠ 0)
    (h : esdtNFTTransfer env c { accts := A } = .ok (out, ctx')) (hS' : Short ctx'.accts) :
    SInv ctx'.accts ∧
      ∀ k, balAt ctx'.accts k = balAt A k + (if nftKey (esdtKeyPrefix ++ tok) (mdNonce t) = k then q else 0) := by
  obtain ⟨tok', payload', t', cur, tv, cv, h0, h3, hdec', _, _, hcur, _, _, _, htv, hcv, hw⟩ :=
    (nftTransfer_dest_effect env c { accts := A } hne).elim h
  rw [hargs] at h0 h3
  cases h0; cases h3
  rw [hdec] at hdec'; cases hdec'
  rw [hq] at htv; cases htv
  exact nftCredit_step hI c.rcv tok hrsys t cur q cv hcur hcv hq0 (decToken_num _ _ hdec) hmd hw hS'

end Esdt

namespace Esdt

theorem NMsgOK.ne {e : Env} {m : NMsg} (h : NMsgOK e m) : m.caller ≠ m.rcv := by
  intro he
  have := h.cross
  rw [← he, present_self] at this
  cases this

theorem NMsgOK.destAbsent {e : Env} {m : NMsg} (h : NMsgOK e m) :
    present e.nshards (shardOf e.nshards m.rcv) m.caller = false := by
  have h2 := h.cross
  simp only [present, Bool.or_eq_false_iff, beq_eq_false_iff_ne, ne_eq] at h2 ⊢
  exact ⟨h.notSys, fun e' => h2.2 e'.symm⟩

/-- the call a message arrives as: between two different accounts, to an account that is not the system account, with the
    message's arguments -/
theorem NMsgOK.leg {e : Env} {m : NMsg} {st : NStep} {i : Nat} {c : Call} (h : NMsgOK e m) (hl : nftWire.Leg m st i c) :
    c.caller ≠ c.rcv ∧ c.rcv ≠ systemAccountAddress ∧ c.args = [m.tok, m.nb, m.qb, m.payload] := by
  cases hl with
  | refund => exact ⟨fun h' => h.ne h'.symm, h.notSys, rfl⟩
  | deliver =>
    have h2 := h.cross
    simp only [present, Bool.or_eq_false_iff, beq_eq_false_iff_ne, ne_eq] at h2
    exact ⟨h.ne, h2.1, rfl⟩

/-- one step of the NFT world keeps the invariant and the supply of every storage key -/
theorem nftStep_supply (e : Env) (w : NFTWorld) (st : NStep) (hI : NWorldInv e w) (hok : NFTStepOK st) (k : Bytes) :
    nsupply (nftStep e w st) k = nsupply w k ∧ NWorldInv e (nftStep e w st) := by
  have hmv := nftStep_move e w st
  -- a user transaction: the shard's sums stay (destination on the same shard) or fall by what the message is worth
  have sent : ∀ {c out A ctx'}, st = .user c → Ran nftWire.fn e w.shards (shardOf e.nshards c.caller) c out A ctx' →
      SInv ctx'.accts ∧ (∀ m ∈ nftWire.emit e c out, NMsgOK e m) ∧
        balAt ctx'.accts k + ((nftWire.emit e c out).map (·.contrib k)).sum = balAt A k := by
    intro c out A ctx' hst hr
    subst hst
    obtain ⟨hself, hsys, hdsys⟩ := hok
    have hIA := hI.shards A hr.mem
    let env : Env := { e with self := shardOf e.nshards c.caller }
    have hs : present env.nshards env.self c.caller = true := present_self _ _
    have hex : esdtNFTTransfer env c { accts := A } = .ok (out, ctx') := hr.run
    have hS' : Short ctx'.accts := (short_runFn .nftTransfer env c nofun { accts := A } hIA.short).elim hex
    have hsend := (nftTransfer_sender_path env c { accts := A } hself).elim hex
    obtain ⟨dst, h3, _⟩ := (nftTransferSender_destination_ok env c { accts := A }).elim hsend
    have hdst : ∀ d, c.args[3]? = some d → d = dst := fun d hd => by rw [h3] at hd; cases hd; rfl
    by_cases hx : shardOf e.nshards c.caller = shardOf e.nshards dst
    · have he : nftWire.emit e c out = [] := by simp only [nftWire, h3, if_pos hx]
      obtain ⟨hI', hb⟩ := nft_user_same env c A out ctx' hIA hs (fun d hd => hdst d hd ▸ hx) hdsys hsend hS'
      rw [he]
      exact ⟨hI', fun _ hm => (List.not_mem_nil hm).elim, by rw [hb k]; exact Int.add_zero _⟩
    · obtain ⟨m, hm, hmc, hmr, hpay, hb, hI'⟩ := nft_user_cross env c A out ctx' hIA hs
        (fun d hd => hdst d hd ▸ hx) hsend hS' k
      have he : nftWire.emit e c out = [m] := by simp only [nftWire, h3, if_neg hx, hm, Option.toList]
      rw [he]
      refine ⟨hI', fun m' hm' => ?_, by simpa using hb⟩
      rw [List.mem_singleton.mp hm']
      have hrcv := hdst _ hmr
      refine ⟨hmc ▸ hsys, ?_, hpay⟩
      rw [hmc, hrcv]
      simp only [present, Bool.or_eq_false_iff, beq_eq_false_iff_ne, ne_eq]
      exact ⟨hdsys _ h3, fun e' => hx e'.symm⟩
  -- a delivery or a refund: the credit of what the message is worth
  have arrived : ∀ {i m c out A ctx'}, m ∈ w.inflight → nftWire.Leg m st i c →
      Ran nftWire.fn e w.shards (shardOf e.nshards c.rcv) c out A ctx' →
      SInv ctx'.accts ∧ balAt ctx'.accts k = balAt A k + m.contrib k := by
    intro i m c out A ctx' hm hl hr
    have hIA := hI.shards A hr.mem
    obtain ⟨t, q, hdec, hq, hq0, hmd⟩ := (hI.msgs m hm).payload
    obtain ⟨hne, hrs, hargs⟩ := (hI.msgs m hm).leg hl
    have hS' : Short ctx'.accts := (short_runFn .nftTransfer _ c nofun { accts := A } hIA.short).elim hr.run
    obtain ⟨hI', hb⟩ := nft_dest _ c A out ctx' hIA hne hrs m.tok m.nb m.qb m.payload hargs t q hdec hq hq0 hmd
      hr.run hS'
    refine ⟨hI', ?_⟩
    rw [hb k]
    simp only [NMsg.contrib, NMsg.key, NMsg.amt, hdec, hq, Option.getD_some]
  obtain ⟨h1, h2⟩ := hmv.all hI.shards hI.msgs (fun hs hr => ⟨(sent hs hr).1, (sent hs hr).2.1⟩)
    (fun hm hl hr => (arrived hm hl hr).1)
    (fun m hm _ => ⟨(hI.msgs m hm).notSys, (hI.msgs m hm).cross, (hI.msgs m hm).payload⟩)
  exact ⟨hmv.sum (balAt · k) (·.contrib k) (fun hs hr _ => (sent hs hr).2.2) (fun hm hl hr _ => (arrived hm hl hr).2)
    (fun _ _ => rfl), h1, h2, trivial⟩

theorem nftRun_supply (e : Env) : ∀ (steps : List NStep) (w : NFTWorld), NWorldInv e w → (∀ s ∈ steps, NFTStepOK s) →
    ∀ k, nsupply (nftRun e steps w) k = nsupply w k ∧ NWorldInv e (nftRun e steps w)
  | [], _, hI, _, _ => ⟨rfl, hI⟩
  | s :: rest, w, hI, hok, k => by
    obtain ⟨h1, hI1⟩ := nftStep_supply e w s hI (hok s List.mem_cons_self) k
    obtain ⟨h2, hI2⟩ := nftRun_supply e rest (nftStep e w s) hI1 (fun s' hs' => hok s' (List.mem_cons_of_mem _ hs')) k
    exact ⟨h2.trans h1, hI2⟩

end Esdt
