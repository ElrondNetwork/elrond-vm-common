/-
  Proofs/NetworkMultiMeta.lean — C08 at history level for MultiESDTNFTTransfer: in the multi-transfer world
  (Proofs/NetworkMulti.lean) every copy of an NFT — every entry stored under its key in any account of any shard, and every
  item in flight for it — carries the same metadata, along any history of multi transfers, deliveries and refunds.
-/
import Proofs.NetworkMulti
import Proofs.NetworkMeta
namespace Esdt

/-- what the items of an argument list carry for key `k`, read the way the destination loop reads them: an NFT / SFT item
    credited under `k` has metadata `m0`; a fungible item is never credited under `k` -/
def loopMd (m0 : MetaData) (k : Bytes) (args : List Bytes) : Nat → Nat → Prop
  | 0, _ => True
  | n + 1, idx =>
    (∀ tok nb pl, args[idx]? = some tok → args[idx + 1]? = some nb → args[idx + 2]? = some pl →
      (u64 (beNat nb) > 0 → ∀ t, decToken pl = some t → nftKey (esdtKeyPrefix ++ tok) (mdNonce t) = k → t.md = some m0) ∧
      (¬ u64 (beNat nb) > 0 → esdtKeyPrefix ++ tok ≠ k)) ∧
    loopMd m0 k args n (idx + 3)

/-- a returned token of the sender loop: if it is stored under `k` it has metadata `m0` (so a token without metadata is
    not under `k`) -/
def TokMd (m0 : MetaData) (k : Bytes) (p : Bytes × Token) : Prop :=
  nftKey (esdtKeyPrefix ++ p.1) (mdNonce p.2) = k → p.2.md = some m0

theorem allMd_write_other {m0 : MetaData} {k : Bytes} {A : Accts} (a k1 v : Bytes) (hA : AllMd m0 k A) (hne : k1 ≠ k) :
    AllMd m0 k (A.write a k1 v) := by
  intro a2 t0 hne2 hdec
  rw [Accts.read_write, if_neg (fun h => hne h.2)] at hne2 hdec
  exact hA a2 t0 hne2 hdec

/-! ### destination side -/

theorem DestChain.md {env : Env} {c : Call} {mv : Bool} (m0 : MetaData) (k : Bytes) :
    ∀ {n idx : Nat} {A A' : Accts}, DestChain env c mv n idx A A' → AllMd m0 k A → Short A → loopMd m0 k c.args n idx →
      AllMd m0 k A' ∧ Short A' := by
  intro n idx A A' h
  induction h with
  | done => exact fun hM hS _ => ⟨hM, hS⟩
  | @item n idx A A1 A' tok nb pl h0 h1 h2 hit hS _ ih =>
    intro hM hSA ⟨hitem, hrest⟩
    have hS1 := hS hSA
    obtain ⟨hnft, hfun⟩ := hitem tok nb pl h0 h1 h2
    refine ih ?_ hS1 hrest
    cases hit with
    | nft t t' cur tv cv hpos hdec _ _ _ _ _ _ ht' _ hw =>
      have hl := hS1 c.rcv (nftKey (esdtKeyPrefix ++ tok) (mdNonce t))
      rw [ht'] at hw
      rw [hw, Accts.read_write, if_pos ⟨rfl, rfl⟩] at hl
      rw [hw]
      exact allMd_write_nft _ _ _ hM ((decToken_num _ _ hdec).withValue _) hl (hnft hpos t hdec)
    | fungible t v hpos _ how => rw [how.written]; exact allMd_write_other _ _ _ hM (hfun hpos)

theorem multiDestLoop_md (m0 : MetaData) (k : Bytes) (env : Env) (c : Call) (m : Nat) :
    ∀ n idx ctx, AllMd m0 k ctx.accts → Short ctx.accts → loopMd m0 k c.args n idx →
      Post (multiDestLoop env c m n idx) ctx (fun _ c' => AllMd m0 k c'.accts ∧ Short c'.accts) :=
  fun n idx ctx hM hS hok => Post.mono (multiDestLoop_chain env c m n idx ctx) fun _ _ h => h.md m0 k hM hS hok

theorem multiTransfer_dest_md (m0 : MetaData) (k : Bytes) (env : Env) (c : Call) (ctx : Ctx) (hM : AllMd m0 k ctx.accts)
    (hS : Short ctx.accts) (hne : c.caller ≠ c.rcv) (a0 : Bytes) (h0 : c.args[0]? = some a0)
    (hok : loopMd m0 k c.args (u64 (beNat a0)) 1) :
    Post (multiTransfer env c) ctx (fun _ ctx' => AllMd m0 k ctx'.accts) := by
  unfold multiTransfer checkBasic
  simp only [hne, if_false]
  xsteps
  rename_i a0' h0' _ _ _
  rw [h0] at h0'; cases h0'
  apply Post.mono (multiDestLoop_md m0 k env c _ _ _ ctx hM hS hok)
  intro _ c1 ⟨h1, _⟩
  split
  · xsteps
    exact Post.pure h1
  · exact Post.pure h1

/-! ### sender side -/

theorem transferOne_md_intact (m0 : MetaData) (k : Bytes) (env : Env) (c : Call) (l : Bool) (dst tok : Bytes) (n q : Nat)
    (v : Bool) (ctx : Ctx) (hI : SInv ctx.accts) (hM : AllMd m0 k ctx.accts) (hne : dst ≠ c.caller) :
    Post (transferOne env c l dst tok n q v) ctx (fun t' c' => AllMd m0 k c'.accts ∧ (l = false → TokMd m0 k (tok, t'))) := by
  apply Post.mono (Post.and (transferOne_effect env c l dst tok n q v ctx)
    (Post.and (transferOne_nonce env c l dst tok n q v ctx) (sp_transferOne env c l dst tok n q v ctx hI.short)))
  intro t' c' ⟨⟨t, x, A1, _, _, hpres, hdec, hx, hA1, hf, hts⟩, hnonce, hS'⟩
  obtain ⟨hmdsome, hnon⟩ := hnonce t hdec
  have hnum : NumOK t := decToken_num _ _ hdec
  have hmdt : ∀ md, t.md = some md → md.nonce ≠ 0 := fun md hmd => hI.mdpos _ _ t md (tokKey_nft _ _) hpres hdec hmd
  have hk : mdNonce t = n := ownNonce hI.mdpos (tokKey_nft _ _) hpres hdec hmdsome hnon
  -- the entry read is under the key it is written back to; if that key is k its metadata is m0
  have hkm : nftKey (esdtKeyPrefix ++ tok) (mdNonce t) = k → t.md = some m0 := by
    intro hkk
    rw [hk] at hkk
    exact hM c.caller t (by rw [← hkk]; exact hpres) (by rw [← hkk]; exact hdec)
  cases l
  · obtain ⟨ht', hc'⟩ := hf rfl
    rw [hc'] at hS' ⊢
    have hl1 := hS' c.caller (nftKey (esdtKeyPrefix ++ tok) (mdNonce t))
    rw [hA1, Accts.read_write, if_pos ⟨rfl, rfl⟩] at hl1
    refine ⟨?_, fun _ => ?_⟩
    · rw [hA1]; exact allMd_write_nft _ _ _ hM (hnum.withValue _) hl1 hkm
    · rw [ht']; exact hkm
  · obtain ⟨cur, cv, _, _, _, ht', hc'⟩ := hts rfl
    have hl1 := hS' c.caller (nftKey (esdtKeyPrefix ++ tok) (mdNonce t))
    rw [hc', Accts.read_write, if_neg (fun ⟨e, _⟩ => hne e), hA1, Accts.read_write, if_pos ⟨rfl, rfl⟩] at hl1
    have hl2 := hS' dst (nftKey (esdtKeyPrefix ++ tok) (mdNonce t))
    rw [hc', Accts.read_write, if_pos ⟨rfl, rfl⟩] at hl2
    rw [ht'] at hc' hl2
    refine ⟨?_, fun h => by cases h⟩
    rw [hc']
    apply allMd_write_nft _ _ _ _ (hnum.withValue _) hl2 hkm
    rw [hA1]
    exact allMd_write_nft _ _ _ hM (hnum.withValue _) hl1 hkm

theorem SendChain.md {env : Env} {c : Call} {l : Bool} {dst : Bytes} {v : Bool} (m0 : MetaData) (k : Bytes)
    (hne : dst ≠ c.caller) (hdsys : dst ≠ systemAccountAddress) :
    ∀ {n idx : Nat} {ctx c' : Ctx} {ts : List (Bytes × Token)}, SendChain env c l dst v n idx ctx c' ts → SInv ctx.accts →
      AllMd m0 k ctx.accts → AllMd m0 k c'.accts ∧ (l = false → ∀ p ∈ ts, TokMd m0 k p) := by
  intro n idx ctx c' ts h
  induction h with
  | done => exact fun _ hM => ⟨hM, fun _ p hp => (List.not_mem_nil hp).elim⟩
  | @item n idx ctx c1 c' tok nb qb t ts _ _ _ hrun _ ih =>
    intro hI hM
    obtain ⟨hI1, _, _⟩ := (transferOne_supply env c l dst tok _ _ v ctx hI hne hdsys).elim hrun
    obtain ⟨hM1, hT1⟩ := (transferOne_md_intact m0 k env c l dst tok _ _ v ctx hI hM hne).elim hrun
    obtain ⟨hM2, hT2⟩ := ih hI1 hM1
    refine ⟨hM2, fun hl p hp => ?_⟩
    rcases List.mem_cons.mp hp with rfl | hp
    · exact hT1 hl
    · exact hT2 hl p hp

theorem multiSenderLoop_md (m0 : MetaData) (k : Bytes) (env : Env) (c : Call) (l : Bool) (dst : Bytes) (v : Bool)
    (hne : dst ≠ c.caller) (hdsys : dst ≠ systemAccountAddress) :
    ∀ n idx ctx, SInv ctx.accts → AllMd m0 k ctx.accts →
      Post (multiSenderLoop env c l dst v n idx) ctx (fun r c' => AllMd m0 k c'.accts ∧
        (l = false → ∀ p ∈ r.1, TokMd m0 k p)) :=
  fun n idx ctx hI hM =>
    Post.mono (multiSenderLoop_chain env c l dst v n idx ctx) fun _ _ h => h.md m0 k hne hdsys hI hM

/-- the emitted payload, read the way the destination loop reads it, satisfies `loopMd` -/
theorem loopMd_payload (m0 : MetaData) (k : Bytes) : ∀ (toks : List (Bytes × Token)) (pre rest : List Bytes),
    (∀ p ∈ toks, TokOK p.2) → (∀ p ∈ toks, p.2.md.isSome = true → (encToken p.2).length < two63) →
    (∀ p ∈ toks, TokMd m0 k p) →
    loopMd m0 k (pre ++ payloadOf toks ++ rest) toks.length pre.length := by
  intro toks
  induction toks with
  | nil => intro pre rest _ _ _; simp [loopMd]
  | cons p ps ih =>
    intro pre rest hok hlen hmd
    obtain ⟨tok, t⟩ := p
    have hokp := hok (tok, t) List.mem_cons_self
    have hmdp := hmd (tok, t) List.mem_cons_self
    obtain ⟨hnum, ⟨q, hq, hq0⟩, hpos⟩ := hokp
    simp only [TokMd] at hmdp
    simp only at hnum hq hpos
    have ihh := fun a b d => ih (pre ++ [a, b, d]) rest (fun p hp => hok p (List.mem_cons_of_mem _ hp))
      (fun p hp => hlen p (List.mem_cons_of_mem _ hp)) (fun p hp => hmd p (List.mem_cons_of_mem _ hp))
    cases hm : t.md with
    | some m =>
      have hitem : payloadItem (tok, t) = [tok, beBytes m.nonce, encToken t] := by simp [payloadItem, hm]
      have hargs : pre ++ payloadOf ((tok, t) :: ps) ++ rest =
          pre ++ (tok :: beBytes m.nonce :: encToken t :: (payloadOf ps ++ rest)) := by
        simp [payloadOf, List.flatMap_cons, hitem]
      have hargs2 : pre ++ payloadOf ((tok, t) :: ps) ++ rest = (pre ++ [tok, beBytes m.nonce, encToken t]) ++ payloadOf ps ++ rest := by
        simp [payloadOf, List.flatMap_cons, hitem]
      obtain ⟨g0, g1, g2⟩ := getElem?_pre3 pre tok (beBytes m.nonce) (encToken t) (payloadOf ps ++ rest)
      have ih2 := ihh tok (beBytes m.nonce) (encToken t)
      have hl3 : (pre ++ [tok, beBytes m.nonce, encToken t]).length = pre.length + 3 := by simp
      rw [hl3, ← hargs2] at ih2
      have hrt : decToken (encToken t) = some t :=
        roundtrip_of_length t hnum (hlen (tok, t) List.mem_cons_self (by simp [hm]))
      simp only [List.length_cons, loopMd]
      refine ⟨?_, ih2⟩
      intro tok' nb' pl' e0 e1 e2
      rw [hargs] at e0 e1 e2
      rw [g0] at e0; rw [g1] at e1; rw [g2] at e2
      cases e0; cases e1; cases e2
      refine ⟨fun _ t' hdec hkk => ?_, fun hn => ?_⟩
      · rw [hrt] at hdec; cases hdec
        exact hmdp hkk
      · exfalso
        apply hn
        rw [beNat_beBytes, u64_of_lt _ (hnum.md m hm).1]
        exact Nat.pos_of_ne_zero (hpos m hm)
    | none =>
      have hitem : payloadItem (tok, t) = [tok, [0], beBytes (t.value.getD 0).natAbs] := by simp [payloadItem, hm]
      have hargs : pre ++ payloadOf ((tok, t) :: ps) ++ rest =
          pre ++ (tok :: [0] :: beBytes (t.value.getD 0).natAbs :: (payloadOf ps ++ rest)) := by
        simp [payloadOf, List.flatMap_cons, hitem]
      have hargs2 : pre ++ payloadOf ((tok, t) :: ps) ++ rest =
          (pre ++ [tok, [0], beBytes (t.value.getD 0).natAbs]) ++ payloadOf ps ++ rest := by
        simp [payloadOf, List.flatMap_cons, hitem]
      obtain ⟨g0, g1, g2⟩ := getElem?_pre3 pre tok [0] (beBytes (t.value.getD 0).natAbs) (payloadOf ps ++ rest)
      have ih2 := ihh tok [0] (beBytes (t.value.getD 0).natAbs)
      have hl3 : (pre ++ [tok, [0], beBytes (t.value.getD 0).natAbs]).length = pre.length + 3 := by simp
      rw [hl3, ← hargs2] at ih2
      simp only [List.length_cons, loopMd]
      refine ⟨?_, ih2⟩
      intro tok' nb' pl' e0 e1 e2
      rw [hargs] at e0 e1 e2
      rw [g0] at e0; rw [g1] at e1; rw [g2] at e2
      cases e0; cases e1; cases e2
      refine ⟨fun hn => absurd hn (by decide), fun _ hkk => ?_⟩
      -- a token without metadata is not stored under k
      have : t.md = some m0 := hmdp (by simp only [mdNonce, hm, nftKey_nonce0]; exact hkk)
      rw [hm] at this; cases this

end Esdt

namespace Esdt

/-- sender side of MultiESDTNFTTransfer and the metadata under key `k` -/
theorem multiTransferSender_md (m0 : MetaData) (k : Bytes) (env : Env) (c : Call) (ctx : Ctx) (hI : SInv ctx.accts)
    (hM : AllMd m0 k ctx.accts)
    (hs : present env.nshards env.self c.caller = true)
    (hdsys : ∀ d, c.args[0]? = some d → d ≠ systemAccountAddress) :
    Post (multiTransferSender env c) ctx (fun out ctx' => AllMd m0 k ctx'.accts ∧ ∀ dst, c.args[0]? = some dst →
      env.self ≠ shardOf env.nshards dst → ∃ callArgs a0 tr, out.outAccts = [{ addr := dst, transfers := [tr] }] ∧
         tr.data = encodeCall fnMultiESDTNFTTransfer callArgs ∧ callArgs[0]? = some a0 ∧
         loopMd m0 k callArgs (u64 (beNat a0)) 1) := by
  unfold multiTransferSender
  simp only [hs, Bool.not_true, Bool.false_eq_true, if_false]
  xsteps
  rename_i dst h0 _ hnc _ a1 h1 _ _ _ _
  have hne : dst ≠ c.caller := of_decide_eq_false hnc
  have hds := hdsys dst h0
  by_cases hl : env.self = shardOf env.nshards dst
  · simp only [hl, if_true, decide_true, Bool.not_true, Bool.false_eq_true, if_false]
    xsteps
    apply Post.mono (RO.tick .l ctx)
    intro _ c1 h1'
    have hI1 : SInv c1.accts := by rw [h1']; exact hI
    have hM1 : AllMd m0 k c1.accts := by rw [h1']; exact hM
    xsteps
    apply Post.mono (multiSenderLoop_md m0 k env c true dst _ hne hds _ _ c1 hI1 hM1)
    intro r c2 ⟨hM2, _⟩
    xsteps
    apply Post.mono (RO.tick .s c2)
    intro _ c3 h3
    xsteps
    apply Post.mono (comp_multiPayloadLoop RO.comp env _ _ c3)
    intro r2 c4 h4
    have fin : ∀ (out : VMOutput), AllMd m0 k c4.accts ∧ ∀ dst_1, c.args[0]? = some dst_1 →
        shardOf env.nshards dst ≠ shardOf env.nshards dst_1 → ∃ callArgs a0 tr,
          out.outAccts = [{ addr := dst_1, transfers := [tr] }] ∧
          tr.data = encodeCall fnMultiESDTNFTTransfer callArgs ∧ callArgs[0]? = some a0 ∧
          loopMd m0 k callArgs (u64 (beNat a0)) 1 := by
      intro out
      refine ⟨by rw [h4, h3]; exact hM2, fun d hd hx => ?_⟩
      rw [h0] at hd; cases hd
      exact absurd rfl hx
    split
    · xsteps
      exact Post.pure (fin _)
    · exact Post.pure (fin _)
  · simp only [hl, if_false, decide_false, Bool.not_false, if_true]
    xsteps
    apply Post.mono (Post.and (multiSenderLoop_supply env c false dst _ hne hds _ _ ctx hI)
      (multiSenderLoop_md m0 k env c false dst _ hne hds _ _ ctx hI hM))
    intro r c2 ⟨⟨_, _, hok2, hlen2⟩, hM2, hT2⟩
    xsteps
    apply Post.mono (multiPayloadLoop_shape env _ _ c2 (hok2 rfl))
    intro r2 c4 ⟨h4, hshape, hlens⟩
    apply Post.pure
    refine ⟨by rw [h4]; exact hM2, fun d hd _ => ?_⟩
    rw [h0] at hd; cases hd
    obtain ⟨toks, logs⟩ := r
    obtain ⟨pl, gr⟩ := r2
    simp only at hshape hlens hlen2 hok2 hT2 ⊢
    have hlt : toks.length < two64 := by rw [hlen2]; exact u64_lt _
    have hn : u64 (beNat (beBytes toks.length)) = toks.length := by rw [beNat_beBytes, u64_of_lt _ hlt]
    refine ⟨_, beBytes toks.length, _, rfl, rfl, by simp, ?_⟩
    rw [hn, hshape]
    exact loopMd_payload m0 k toks [beBytes toks.length] _ (hok2 trivial) hlens (hT2 trivial)

/-! ### the world -/

/-- every item in flight for key `k` carries metadata `m0` -/
def MMsgMd (m0 : MetaData) (k : Bytes) (m : MMsg) : Prop :=
  ∀ a0, m.args[0]? = some a0 → loopMd m0 k m.args (u64 (beNat a0)) 1

structure MMdInv (m0 : MetaData) (k : Bytes) (w : MWorld) : Prop where
  shards : ∀ A ∈ w.shards, AllMd m0 k A
  msgs : ∀ m ∈ w.inflight, MMsgMd m0 k m

theorem multiStep_md (m0 : MetaData) (k : Bytes) (e : Env) (w : MWorld) (st : NStep) (hI : MWorldInv e w)
    (hM : MMdInv m0 k w) (hok : MultiStepOK st) : MMdInv m0 k (multiStep e w st) := by
  suffices h : _ ∧ _ from ⟨h.1, h.2⟩
  refine (multiStep_move e w st).all hM.shards hM.msgs ?_ ?_ (fun m hm _ => hM.msgs m hm)
  · intro c out A ctx' hst hr
    subst hst
    obtain ⟨hself, hsys, hdsys⟩ := hok
    let env : Env := { e with self := shardOf e.nshards c.caller }
    have hsend := (multiTransfer_sender_path env c { accts := A } hself).elim hr.run
    obtain ⟨hMA', hmsg⟩ := (multiTransferSender_md m0 k env c { accts := A } (hI.shards A hr.mem) (hM.shards A hr.mem)
      (present_self _ _) hdsys).elim hsend
    refine ⟨hMA', ?_⟩
    cases h0 : c.args[0]? with
    | none =>
      have he : multiWire.emit e c out = [] := by simp only [multiWire, h0]
      rw [he]
      exact fun _ hm => (List.not_mem_nil hm).elim
    | some dst =>
      by_cases hx : shardOf e.nshards c.caller = shardOf e.nshards dst
      · have he : multiWire.emit e c out = [] := by simp only [multiWire, h0, if_pos hx]
        rw [he]
        exact fun _ hm => (List.not_mem_nil hm).elim
      · obtain ⟨callArgs, a0, tr, hout, hdata, ha0, hlmd⟩ := hmsg dst h0 hx
        have he : multiWire.emit e c out = [{ caller := c.caller, rcv := dst, args := callArgs, refund := false }] := by
          simp only [multiWire, h0, if_neg hx, mmsgOf_emitted hout hdata, Option.toList]
        rw [he]
        intro m hm a0' ha0'
        rw [List.mem_singleton.mp hm] at ha0' ⊢
        rw [ha0] at ha0'
        cases ha0'
        exact hlmd
  · intro i m c out A ctx' hm hl hr
    obtain ⟨a0, ha0, _⟩ := (hI.msgs m hm).items
    obtain ⟨hne, _, hargs⟩ := (hI.msgs m hm).leg hl
    exact (multiTransfer_dest_md m0 k _ c { accts := A } (hM.shards A hr.mem) (hI.shards A hr.mem).short hne a0
      (hargs ▸ ha0) (hargs ▸ hM.msgs m hm a0 ha0)).elim hr.run

theorem multiRun_md (m0 : MetaData) (k : Bytes) (e : Env) : ∀ (steps : List NStep) (w : MWorld), MWorldInv e w →
    MMdInv m0 k w → (∀ s ∈ steps, MultiStepOK s) → MMdInv m0 k (multiRun e steps w)
  | [], _, _, hM, _ => hM
  | s :: rest, w, hI, hM, hok =>
    have hok1 := hok s List.mem_cons_self
    multiRun_md m0 k e rest (multiStep e w s) (multiStep_supply e w s hI hok1 []).2 (multiStep_md m0 k e w s hI hM hok1)
      (fun s' hs' => hok s' (List.mem_cons_of_mem _ hs'))

end Esdt
