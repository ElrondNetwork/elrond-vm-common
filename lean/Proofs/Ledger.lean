/-
  Proofs/Ledger.lean — exact ledger effect of the supply-changing functions and of ESDTTransfer,
  composed from the helper specifications of Proofs/Exact.lean.
-/
import Proofs.Exact
import Proofs.Codec
namespace Esdt

/-- guard / argument steps only: stops at every helper call -/
macro "xstep" : tactic => `(tactic| with_reducible first
  | apply Post.bind
  | apply Post.fail
  | apply Post.goPanic
  | (apply Post.guardE; intro _)
  | (apply Post.argAt; intro _ _)
  | (apply Post.deref; intro _ _)
  | (show Post _ _ _; dsimp only))
macro "xsteps" : tactic => `(tactic| repeat' xstep)

/-- decoded balance of a stored value (0 when absent; undecodable / nil never arise from the code's own writes) -/
def balOf (raw : Bytes) : Int :=
  match tokenOf raw with
  | some t => t.value.getD 0
  | none => 0

theorem balOf_nil : balOf [] = 0 := by simp [balOf, tokenOf, fungibleDefault]

theorem tokenOf_encToken (t : Token) (h : TokenOK t) : tokenOf (encToken t) = some t := by
  simp [tokenOf, encToken_ne_nil, decToken_encToken t h]

/-- reading back what `saveESDTData` stored -/
theorem balOf_storedForm (t : Token) (v : Int) (hv : t.value = some v) (h : TokenOK t) : balOf (storedForm t) = v := by
  unfold storedForm
  split
  · rename_i hz; rw [hv] at hz; rw [balOf_nil]; have := hz.1; simp at this; omega
  · simp [balOf, tokenOf_encToken t h, hv]

theorem balOf_nftStoredForm (t : Token) (v : Int) (hv : t.value = some v) (hnn : 0 ≤ v) (h : TokenOK t) :
    balOf (nftStoredForm t) = v := by
  unfold nftStoredForm
  rw [hv]
  simp only
  split
  · rw [balOf_nil]; omega
  · simp [balOf, tokenOf_encToken t h, hv]

/-- result of the local-action functions: exactly one storage slot rewritten -/
structure OneWrite (A A' : Accts) (a k : Bytes) (t : Token) (v d : Int) : Prop where
  old : tokenOf (A.read a k) = some t
  fungible : t.type = 0
  value : t.value = some v
  nonneg : 0 ≤ v + d
  written : A' = A.write a k (storedForm { t with value := some (v + d) })

/-- every other slot of every account is untouched, and the balance of the slot moves by exactly `d` -/
theorem OneWrite.others {A A' : Accts} {a k : Bytes} {t : Token} {v d : Int} (h : OneWrite A A' a k t v d)
    (a2 k2 : Bytes) (hne : ¬ (a = a2 ∧ k = k2)) : A'.read a2 k2 = A.read a2 k2 := by
  rw [h.written, Accts.read_write]; simp [hne]

theorem OneWrite.balance {A A' : Accts} {a k : Bytes} {t : Token} {v d : Int} (h : OneWrite A A' a k t v d)
    (hok : TokenOK { t with value := some (v + d) }) :
    balOf (A'.read a k) = balOf (A.read a k) + d := by
  rw [h.written, Accts.read_write]
  simp only [and_self, if_true]
  rw [balOf_storedForm _ (v + d) rfl hok]
  simp [balOf, h.old, h.value]

/-- ESDTLocalMint: the caller holds the local-mint role for the token, and its entry rises by exactly the given amount -/
theorem localMint_spec (env : Env) (c : Call) (ctx : Ctx) :
    Post (esdtLocalMint env c) ctx (fun _ ctx' => ∃ tok amt t v, c.args[0]? = some tok ∧ c.args[1]? = some amt ∧
      HasRole ctx.accts c.caller tok roleLocalMint ∧
      OneWrite ctx.accts ctx'.accts c.caller (esdtKeyPrefix ++ tok) t v (beNat amt) ∧
      GateOpen ctx.accts c.caller (esdtKeyPrefix ++ tok) t c.rae) := by
  unfold esdtLocalMint checkLocalAction checkBasic
  xsteps
  apply Post.mono (spec_checkAllowed _ _ _ rfl)
  rintro _ c1 ⟨h1, hrole⟩
  xsteps
  apply Post.mono (spec_addToESDTBalance _ _ _ _ c1)
  rintro _ c2 ⟨t, v, ht, hty, hv, hnn, hg, hw⟩
  rw [h1] at ht hg hw
  exact Post.pure ⟨_, _, t, v, ‹c.args[0]? = some _›, ‹c.args[1]? = some _›, hrole, ⟨ht, hty, hv, hnn, hw⟩, hg⟩

/-- ESDTLocalBurn: falls by exactly the amount; an amount above the holding is refused (`0 ≤ v − amount`) -/
theorem localBurn_spec (env : Env) (c : Call) (ctx : Ctx) :
    Post (esdtLocalBurn env c) ctx (fun _ ctx' => ∃ tok amt t v, c.args[0]? = some tok ∧ c.args[1]? = some amt ∧
      HasRole ctx.accts c.caller tok roleLocalBurn ∧
      OneWrite ctx.accts ctx'.accts c.caller (esdtKeyPrefix ++ tok) t v (- (beNat amt : Int)) ∧
      GateOpen ctx.accts c.caller (esdtKeyPrefix ++ tok) t c.rae) := by
  unfold esdtLocalBurn checkLocalAction checkBasic
  xsteps
  apply Post.mono (spec_checkAllowed _ _ _ rfl)
  rintro _ c1 ⟨h1, hrole⟩
  xsteps
  apply Post.mono (spec_addToESDTBalance _ _ _ _ c1)
  rintro _ c2 ⟨t, v, ht, hty, hv, hnn, hg, hw⟩
  rw [h1] at ht hg hw
  exact Post.pure ⟨_, _, t, v, ‹c.args[0]? = some _›, ‹c.args[1]? = some _›, hrole, ⟨ht, hty, hv, hnn, hw⟩, hg⟩

theorem localMint_effect (env : Env) (c : Call) (ctx : Ctx) :
    Post (esdtLocalMint env c) ctx (fun _ ctx' => ∃ tok amt t v, c.args[0]? = some tok ∧ c.args[1]? = some amt ∧
      OneWrite ctx.accts ctx'.accts c.caller (esdtKeyPrefix ++ tok) t v (beNat amt) ∧
      GateOpen ctx.accts c.caller (esdtKeyPrefix ++ tok) t c.rae) := by
  apply (localMint_spec env c ctx).mono
  rintro _ _ ⟨tok, amt, t, v, h0, h1, _, hw, hg⟩
  exact ⟨tok, amt, t, v, h0, h1, hw, hg⟩

theorem localBurn_effect (env : Env) (c : Call) (ctx : Ctx) :
    Post (esdtLocalBurn env c) ctx (fun _ ctx' => ∃ tok amt t v, c.args[0]? = some tok ∧ c.args[1]? = some amt ∧
      OneWrite ctx.accts ctx'.accts c.caller (esdtKeyPrefix ++ tok) t v (- (beNat amt : Int)) ∧
      GateOpen ctx.accts c.caller (esdtKeyPrefix ++ tok) t c.rae) := by
  apply (localBurn_spec env c ctx).mono
  rintro _ _ ⟨tok, amt, t, v, h0, h1, _, hw, hg⟩
  exact ⟨tok, amt, t, v, h0, h1, hw, hg⟩

/-- ESDTBurn (global burn through the system contract address) -/
theorem esdtBurn_effect (env : Env) (c : Call) (ctx : Ctx) :
    Post (esdtBurn env c) ctx (fun _ ctx' => ∃ tok amt t v, c.args[0]? = some tok ∧ c.args[1]? = some amt ∧
      OneWrite ctx.accts ctx'.accts c.caller (esdtKeyPrefix ++ tok) t v (- (beNat amt : Int)) ∧
      GateOpen ctx.accts c.caller (esdtKeyPrefix ++ tok) t c.rae) := by
  unfold esdtBurn checkBasic
  xsteps
  apply Post.mono (spec_addToESDTBalance _ _ _ _ ctx)
  intro _ c2 ⟨t, v, ht, hty, hv, hnn, hg, hw⟩
  xsteps
  apply Post.pure
  exact ⟨_, _, t, v, ‹c.args[0]? = some _›, ‹c.args[1]? = some _›, ⟨ht, hty, hv, hnn, hw⟩, hg⟩

/-- ESDTWipe: removes exactly the frozen account's fungible entry — and only when it is frozen -/
theorem wipe_effect (env : Env) (c : Call) (ctx : Ctx) :
    Post (esdtFreezeWipe .wipe env c) ctx (fun _ ctx' => ∃ tok t, c.args[0]? = some tok ∧ c.caller = esdtSCAddress ∧
      tokenOf (ctx.accts.read c.rcv (esdtKeyPrefix ++ tok)) = some t ∧ frozenOf t.properties = true ∧
      ctx'.accts = ctx.accts.write c.rcv (esdtKeyPrefix ++ tok) []) := by
  unfold esdtFreezeWipe
  xsteps
  apply Post.mono (spec_getESDTDataFromKey _ _ ctx)
  intro t c1 ⟨h1, ht⟩
  xsteps
  apply Post.mono (spec_writeKey _ _ _ c1)
  intro _ c2 h2
  apply Post.pure
  refine ⟨_, t, ‹c.args[0]? = some _›, by simpa using ‹decide (c.caller ≠ esdtSCAddress) = false›, ht, by simpa using ‹(!frozenOf t.properties) = false›, ?_⟩
  rw [h2, h1]

/-- ESDTFreeze / ESDTUnFreeze: only the flag bytes change, the value is preserved -/
theorem toggleFreeze_effect (kind : FreezeKind) (hk : kind ≠ .wipe) (env : Env) (c : Call) (ctx : Ctx) :
    Post (esdtFreezeWipe kind env c) ctx (fun _ ctx' => ∃ tok t, c.args[0]? = some tok ∧ c.caller = esdtSCAddress ∧
      tokenOf (ctx.accts.read c.rcv (esdtKeyPrefix ++ tok)) = some t ∧ t.value.isSome = true ∧
      ctx'.accts = ctx.accts.write c.rcv (esdtKeyPrefix ++ tok)
        (storedForm { t with properties := flagBytes (kind == .freeze) })) := by
  unfold esdtFreezeWipe
  xsteps
  cases kind with
  | wipe => exact absurd rfl hk
  | freeze =>
    simp only
    apply Post.bind
    apply Post.mono (spec_getESDTDataFromKey _ _ ctx)
    intro t c1 ⟨h1, ht⟩
    apply Post.bind
    apply Post.mono (spec_saveESDTData _ _ _ c1)
    intro _ c2 ⟨hv, h2⟩
    apply Post.pure
    exact ⟨_, t, ‹c.args[0]? = some _›, by simpa using ‹decide (c.caller ≠ esdtSCAddress) = false›, ht, hv, by rw [h2, h1]⟩
  | unfreeze =>
    simp only
    apply Post.bind
    apply Post.mono (spec_getESDTDataFromKey _ _ ctx)
    intro t c1 ⟨h1, ht⟩
    apply Post.bind
    apply Post.mono (spec_saveESDTData _ _ _ c1)
    intro _ c2 ⟨hv, h2⟩
    apply Post.pure
    exact ⟨_, t, ‹c.args[0]? = some _›, by simpa using ‹decide (c.caller ≠ esdtSCAddress) = false›, ht, hv, by rw [h2, h1]⟩

end Esdt

namespace Esdt

/-- result of the NFT quantity functions: the caller's entry under token‖nonce rewritten with a new value -/
structure NftWrite (A A' : Accts) (a tk : Bytes) (n : Nat) (t : Token) (v v' : Int) : Prop where
  present : A.read a (nftKey tk n) ≠ []
  old : decToken (A.read a (nftKey tk n)) = some t
  hasMeta : t.md.isSome = true
  value : t.value = some v
  written : A' = A.write a (nftKey tk (mdNonce t)) (nftStoredForm { t with value := some v' })

/-- the shape of result of the quantity functions, from what the lookup and the save establish -/
theorem Held.nftWrite {A A' : Accts} {a tk : Bytes} {n : Nat} {t : Token} {v v' : Int} {rae : Bool}
    (h : Held A a tk n t) (hn : n ≠ 0) (hv : t.value = some v)
    (s : Saved A A' a tk { t with value := some v' } rae) : NftWrite A A' a tk n t v v' :=
  ⟨h.present, h.old, h.hasMeta (Nat.pos_of_ne_zero hn), hv, s.written⟩

/-- ESDTNFTAddQuantity, everything a successful call establishes: the caller holds the add-quantity role, owns an entry
    under (token, nonce) that says that nonce (or nonce 0), and the entry is saved — under the key of its own metadata
    nonce — with the value raised by exactly the given amount, every other field kept -/
theorem addQuantity_spec (env : Env) (c : Call) (ctx : Ctx) :
    Post (esdtNFTAddQuantity env c) ctx (fun _ ctx' => ∃ tok nb qb t v, c.args[0]? = some tok ∧ c.args[1]? = some nb ∧
      c.args[2]? = some qb ∧ u64 (beNat nb) ≠ 0 ∧ HasRole ctx.accts c.caller tok roleNFTAddQuantity ∧
      Held ctx.accts c.caller (esdtKeyPrefix ++ tok) (u64 (beNat nb)) t ∧ t.value = some v ∧
      Saved ctx.accts ctx'.accts c.caller (esdtKeyPrefix ++ tok) { t with value := some (v + beNat qb) } c.rae) := by
  unfold esdtNFTAddQuantity checkCreateBurnAdd checkBasic
  xsteps
  apply Post.mono (spec_checkAllowed _ _ _ rfl)
  rintro _ c1 ⟨h1, hrole⟩
  xsteps
  apply Post.mono (getNFTOnSender_held _ _ _ h1)
  rintro t c2 ⟨h2, held⟩
  xsteps
  apply Post.mono (saveNFT_saved _ _ _ _ h2)
  rintro _ c3 ⟨_, saved⟩
  exact Post.pure ⟨_, _, _, t, _, ‹c.args[0]? = some _›, ‹c.args[1]? = some _›, ‹c.args[2]? = some _›,
    of_decide_eq_false ‹decide (u64 (beNat _) = 0) = false›, hrole, held, ‹t.value = some _›, saved⟩

/-- ESDTNFTBurn: as ESDTNFTAddQuantity with the burn role; the value falls by exactly the amount, never below zero -/
theorem nftBurn_spec (env : Env) (c : Call) (ctx : Ctx) :
    Post (esdtNFTBurn env c) ctx (fun _ ctx' => ∃ tok nb qb t v, c.args[0]? = some tok ∧ c.args[1]? = some nb ∧
      c.args[2]? = some qb ∧ u64 (beNat nb) ≠ 0 ∧ HasRole ctx.accts c.caller tok roleNFTBurn ∧
      Held ctx.accts c.caller (esdtKeyPrefix ++ tok) (u64 (beNat nb)) t ∧ t.value = some v ∧ (beNat qb : Int) ≤ v ∧
      Saved ctx.accts ctx'.accts c.caller (esdtKeyPrefix ++ tok) { t with value := some (v - beNat qb) } c.rae) := by
  unfold esdtNFTBurn checkCreateBurnAdd checkBasic
  xsteps
  apply Post.mono (spec_checkAllowed _ _ _ rfl)
  rintro _ c1 ⟨h1, hrole⟩
  xsteps
  apply Post.mono (getNFTOnSender_held _ _ _ h1)
  rintro t c2 ⟨h2, held⟩
  xsteps
  apply Post.mono (saveNFT_saved _ _ _ _ h2)
  rintro _ c3 ⟨_, saved⟩
  exact Post.pure ⟨_, _, _, t, _, ‹c.args[0]? = some _›, ‹c.args[1]? = some _›, ‹c.args[2]? = some _›,
    of_decide_eq_false ‹decide (u64 (beNat _) = 0) = false›, hrole, held, ‹t.value = some _›,
    by simpa using ‹decide (_ < (beNat _ : Int)) = false›, saved⟩

theorem addQuantity_effect (env : Env) (c : Call) (ctx : Ctx) :
    Post (esdtNFTAddQuantity env c) ctx (fun _ ctx' => ∃ tok nb qb t v, c.args[0]? = some tok ∧ c.args[1]? = some nb ∧
      c.args[2]? = some qb ∧ u64 (beNat nb) ≠ 0 ∧
      NftWrite ctx.accts ctx'.accts c.caller (esdtKeyPrefix ++ tok) (u64 (beNat nb)) t v (v + beNat qb) ∧
      GateOpen ctx.accts c.caller (esdtKeyPrefix ++ tok) { t with value := some (v + beNat qb) } c.rae) := by
  apply (addQuantity_spec env c ctx).mono
  rintro _ _ ⟨tok, nb, qb, t, v, h0, h1, h2, hn, _, held, hv, saved⟩
  exact ⟨tok, nb, qb, t, v, h0, h1, h2, hn, held.nftWrite hn hv saved, saved.gate⟩

theorem nftBurn_effect (env : Env) (c : Call) (ctx : Ctx) :
    Post (esdtNFTBurn env c) ctx (fun _ ctx' => ∃ tok nb qb t v, c.args[0]? = some tok ∧ c.args[1]? = some nb ∧
      c.args[2]? = some qb ∧ u64 (beNat nb) ≠ 0 ∧ (beNat qb : Int) ≤ v ∧
      NftWrite ctx.accts ctx'.accts c.caller (esdtKeyPrefix ++ tok) (u64 (beNat nb)) t v (v - beNat qb) ∧
      GateOpen ctx.accts c.caller (esdtKeyPrefix ++ tok) { t with value := some (v - beNat qb) } c.rae) := by
  apply (nftBurn_spec env c ctx).mono
  rintro _ _ ⟨tok, nb, qb, t, v, h0, h1, h2, hn, _, held, hv, hle, saved⟩
  exact ⟨tok, nb, qb, t, v, h0, h1, h2, hn, hle, held.nftWrite hn hv saved, saved.gate⟩

/-- ESDTTransfer with both accounts on the executing shard: the sender's entry falls and the destination's entry
    rises by exactly the same amount; the destination read happens after the debit (self-transfers included) -/
theorem esdtTransfer_sameShard_effect (env : Env) (c : Call) (ctx : Ctx)
    (hs : present env.nshards env.self c.caller = true) (hd : present env.nshards env.self c.rcv = true) :
    Post (esdtTransfer env c) ctx (fun _ ctx' => ∃ tok amt t v A1 t2 v2, c.args[0]? = some tok ∧ c.args[1]? = some amt ∧
      beNat amt ≠ 0 ∧
      OneWrite ctx.accts A1 c.caller (esdtKeyPrefix ++ tok) t v (- (beNat amt : Int)) ∧
      OneWrite A1 ctx'.accts c.rcv (esdtKeyPrefix ++ tok) t2 v2 (beNat amt) ∧
      (mustVerifyPayable c 2 = true → env.payable c.rcv = .yes)) := by
  unfold esdtTransfer checkBasic
  simp only [hs, hd, if_true, ↓reduceIte]
  xsteps
  apply Post.mono (spec_addToESDTBalance _ _ _ _ ctx)
  intro _ c1 ⟨t, v, ht, hty, hv, hnn, hg, hw⟩
  xsteps
  apply Post.mono (spec_verifyPayableIf env _ c.rcv c1)
  intro _ c2 ⟨h2, hp⟩
  xsteps
  apply Post.mono (spec_addToESDTBalance _ _ _ _ c2)
  intro _ c3 ⟨t2, v2, ht2, hty2, hv2, hnn2, hg2, hw2⟩
  have hamt := of_decide_eq_false ‹decide (beNat _ = 0) = false›
  rw [h2] at ht2 hw2
  have fin : ∃ tok amt t v A1 t2 v2, c.args[0]? = some tok ∧ c.args[1]? = some amt ∧ beNat amt ≠ 0 ∧
      OneWrite ctx.accts A1 c.caller (esdtKeyPrefix ++ tok) t v (- (beNat amt : Int)) ∧
      OneWrite A1 c3.accts c.rcv (esdtKeyPrefix ++ tok) t2 v2 (beNat amt) ∧
      (mustVerifyPayable c 2 = true → env.payable c.rcv = .yes) :=
    ⟨_, _, t, v, c1.accts, t2, v2, ‹c.args[0]? = some _›, ‹c.args[1]? = some _›, hamt,
      ⟨ht, hty, hv, hnn, hw⟩, ⟨ht2, hty2, hv2, hnn2, hw2⟩, hp⟩
  split
  · xsteps
    exact Post.pure fin
  · exact Post.pure fin

end Esdt

namespace Esdt

/-- ESDTTransfer executed on the destination shard only (cross-shard arrival, refund, system-contract transfer) -/
theorem esdtTransfer_destOnly_effect (env : Env) (c : Call) (ctx : Ctx)
    (hs : present env.nshards env.self c.caller = false) (hd : present env.nshards env.self c.rcv = true) :
    Post (esdtTransfer env c) ctx (fun _ ctx' => ∃ tok amt t2 v2, c.args[0]? = some tok ∧ c.args[1]? = some amt ∧
      beNat amt ≠ 0 ∧
      OneWrite ctx.accts ctx'.accts c.rcv (esdtKeyPrefix ++ tok) t2 v2 (beNat amt) ∧
      GateOpen ctx.accts c.rcv (esdtKeyPrefix ++ tok) t2 c.rae ∧
      (mustVerifyPayable c 2 = true → env.payable c.rcv = .yes)) := by
  unfold esdtTransfer checkBasic
  simp only [hs, hd, if_true, ↓reduceIte, Bool.false_eq_true, if_false]
  xsteps
  apply Post.mono (spec_verifyPayableIf env _ c.rcv ctx)
  intro _ c2 ⟨h2, hp⟩
  xsteps
  apply Post.mono (spec_addToESDTBalance _ _ _ _ c2)
  intro _ c3 ⟨t2, v2, ht2, hty2, hv2, hnn2, hg2, hw2⟩
  have hamt := of_decide_eq_false ‹decide (beNat _ = 0) = false›
  rw [h2] at ht2 hw2 hg2
  have fin : ∃ tok amt t2 v2, c.args[0]? = some tok ∧ c.args[1]? = some amt ∧ beNat amt ≠ 0 ∧
      OneWrite ctx.accts c3.accts c.rcv (esdtKeyPrefix ++ tok) t2 v2 (beNat amt) ∧
      GateOpen ctx.accts c.rcv (esdtKeyPrefix ++ tok) t2 c.rae ∧
      (mustVerifyPayable c 2 = true → env.payable c.rcv = .yes) :=
    ⟨_, _, t2, v2, ‹c.args[0]? = some _›, ‹c.args[1]? = some _›, hamt, ⟨ht2, hty2, hv2, hnn2, hw2⟩, hg2, hp⟩
  split
  · xsteps
    exact Post.pure fin
  · exact Post.pure fin

/-- ESDTTransfer executed on the sender shard only (destination elsewhere): exactly the debit, and — for a contract
    caller — the continuation message carrying the same arguments -/
theorem esdtTransfer_senderOnly_effect (env : Env) (c : Call) (ctx : Ctx)
    (hs : present env.nshards env.self c.caller = true) (hd : present env.nshards env.self c.rcv = false) :
    Post (esdtTransfer env c) ctx (fun out ctx' => ∃ tok amt t v, c.args[0]? = some tok ∧ c.args[1]? = some amt ∧
      beNat amt ≠ 0 ∧
      OneWrite ctx.accts ctx'.accts c.caller (esdtKeyPrefix ++ tok) t v (- (beNat amt : Int)) ∧
      GateOpen ctx.accts c.caller (esdtKeyPrefix ++ tok) t c.rae ∧
      (isSmartContractAddress c.caller = true →
        ∃ tr, out.outAccts = [{ addr := c.rcv, transfers := [tr] }] ∧ tr.data = encodeCall fnESDTTransfer c.args)) := by
  unfold esdtTransfer checkBasic
  simp only [hs, hd, if_true, ↓reduceIte, Bool.false_eq_true, if_false]
  xsteps
  apply Post.mono (spec_addToESDTBalance _ _ _ _ ctx)
  intro _ c1 ⟨t, v, ht, hty, hv, hnn, hg, hw⟩
  have hamt := of_decide_eq_false ‹decide (beNat _ = 0) = false›
  apply Post.pure
  refine ⟨_, _, t, v, ‹c.args[0]? = some _›, ‹c.args[1]? = some _›, hamt, ⟨ht, hty, hv, hnn, hw⟩, hg, ?_⟩
  intro hsc
  simp only [hsc, if_true, addOutputTransfer]
  exact ⟨_, rfl, rfl⟩

/-- destination rejections: facts of the first guards, so only those are walked and the rest of the body is not looked
    at -/
theorem esdtTransfer_not_to_metachain (env : Env) (c : Call) (ctx : Ctx) :
    Post (esdtTransfer env c) ctx (fun _ _ => shardOf env.nshards c.rcv ≠ metaShard) := by
  unfold esdtTransfer
  apply Post.bind; apply Post.intro; intro _ _
  apply Post.bind; apply Post.guardE; intro hmeta
  exact Post.intro fun _ _ => of_decide_eq_false hmeta

theorem multiTransferSender_destination_ok (env : Env) (c : Call) (ctx : Ctx) :
    Post (multiTransferSender env c) ctx (fun _ _ => ∃ dst, c.args[0]? = some dst ∧
      dst.length = c.caller.length ∧ dst ≠ c.caller ∧ shardOf env.nshards dst ≠ metaShard) := by
  unfold multiTransferSender
  apply Post.bind; apply Post.argAt; intro dst h0
  apply Post.bind; apply Post.guardE; intro hlen
  apply Post.bind; apply Post.guardE; intro hne
  apply Post.bind; apply Post.guardE; intro hmeta
  exact Post.intro fun _ _ => ⟨dst, h0, by simpa using hlen, of_decide_eq_false hne, of_decide_eq_false hmeta⟩

end Esdt

namespace Esdt

/-- ESDTNFTTransfer on the destination shard: the payload is decoded, payability verified when required, and the
    destination entry under token‖nonce(payload) becomes the payload with `Value := carried + existing` -/
theorem nftTransfer_dest_effect (env : Env) (c : Call) (ctx : Ctx) (hne : c.caller ≠ c.rcv) :
    Post (esdtNFTTransfer env c) ctx (fun _ ctx' => ∃ tok payload t cur tv cv, c.args[0]? = some tok ∧
      c.args[3]? = some payload ∧ decToken payload = some t ∧
      present env.nshards env.self c.caller = false ∧ present env.nshards env.self c.rcv = true ∧
      tokenOf (ctx.accts.read c.rcv (nftKey (esdtKeyPrefix ++ tok) (mdNonce t))) = some cur ∧
      (mustVerifyPayable c 4 = true → env.payable c.rcv = .yes) ∧
      GateOpen ctx.accts c.rcv (esdtKeyPrefix ++ tok) cur c.rae ∧
      (∀ cm, cur.md = some cm → ∃ tm, t.md = some tm ∧ cm.hash = tm.hash) ∧
      t.value = some tv ∧ cur.value = some cv ∧
      ctx'.accts = ctx.accts.write c.rcv (nftKey (esdtKeyPrefix ++ tok) (mdNonce t))
        (nftStoredForm { t with value := some (tv + cv) })) := by
  unfold esdtNFTTransfer checkBasic
  simp only [hne, if_false]
  xsteps
  apply Post.mono (spec_unmarshalToken _ ctx)
  intro t c1 ⟨h1, hdec⟩
  xsteps
  apply Post.mono (spec_addNFTToDestination env c.rcv t _ _ _ c1)
  intro t' c2 ⟨cur, tv, cv, hcur, hp, hg, hh, htv, hcv, ht', _, hw⟩
  rw [h1] at hcur hg hw
  have fin : ∃ tok payload t cur tv cv, c.args[0]? = some tok ∧
      c.args[3]? = some payload ∧ decToken payload = some t ∧
      present env.nshards env.self c.caller = false ∧ present env.nshards env.self c.rcv = true ∧
      tokenOf (ctx.accts.read c.rcv (nftKey (esdtKeyPrefix ++ tok) (mdNonce t))) = some cur ∧
      (mustVerifyPayable c 4 = true → env.payable c.rcv = .yes) ∧
      GateOpen ctx.accts c.rcv (esdtKeyPrefix ++ tok) cur c.rae ∧
      (∀ cm, cur.md = some cm → ∃ tm, t.md = some tm ∧ cm.hash = tm.hash) ∧
      t.value = some tv ∧ cur.value = some cv ∧
      c2.accts = ctx.accts.write c.rcv (nftKey (esdtKeyPrefix ++ tok) (mdNonce t))
        (nftStoredForm { t with value := some (tv + cv) }) :=
    ⟨_, _, t, cur, tv, cv, ‹c.args[0]? = some _›, ‹c.args[3]? = some _›, hdec,
      ‹present env.nshards env.self c.caller = false›,
      by simpa using ‹(!present env.nshards env.self c.rcv) = false›, hcur, hp, hg, hh, htv, hcv, by rw [hw, ht']⟩
  split
  · repeat' (first | xstep | apply Post.pure)
    exact fin
  · repeat' (first | xstep | apply Post.pure)
    exact fin

end Esdt
