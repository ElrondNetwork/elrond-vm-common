/-
  Proofs/Gated.lean — token entries change through three writers that stand behind the freeze / pause gate
  (`checkFrozeAndPause`): `addToESDTBalance`, `saveNFT`, `addNFTToDestination`.  Each makes ONE write into ONE slot, from a
  state in which the gate let it through (`spec_*` of Proofs/Exact.lean).  So ANY invariant is kept by such a writer as
  soon as it survives writes into that slot from such states: because it does not speak of the slot, or because it keeps
  the gate shut (`Pz`: the token is paused; `Fz`: the entry is frozen).  These are the gate-aware counterparts of
  `comp_addToESDTBalance Pres.comp`, `comp_saveNFT Pres.comp`, `comp_addNFTToDestination Pres.comp` (Proofs/Pres.lean).
-/
import Proofs.Pres
namespace Esdt

/-- what the gate of token key `tk` saw when it let a write into slot `(a, k)` through: the entry the slot holds -/
def HeldOpen (a k tk : Bytes) (rae : Bool) (A : Accts) : Prop :=
  ∃ t, tokenOf (A.read a k) = some t ∧ GateOpen A a tk t rae

/-- … so the token is not paused -/
theorem HeldOpen.pause {a k tk : Bytes} {A : Accts} (h : HeldOpen a k tk false A) (ha : a ≠ esdtSCAddress) :
    pausedIn A tk = false := by
  obtain ⟨t, _, hg⟩ := h
  exact (hg rfl ha).2

/-- … and the entry held is not frozen -/
theorem HeldOpen.notFrozen {a k tk : Bytes} {A : Accts} (h : HeldOpen a k tk false A) (ha : a ≠ esdtSCAddress) :
    ∃ t, tokenOf (A.read a k) = some t ∧ frozenOf t.properties = false := by
  obtain ⟨t, ht, hg⟩ := h
  exact ⟨t, ht, (hg rfl ha).1⟩

variable {I : Accts → Prop}

theorem gated_addToESDTBalance {a k : Bytes} (d : Int) {rae : Bool}
    (h : ∀ A v, I A → HeldOpen a k k rae A → I (A.write a k v)) : Pres I (addToESDTBalance a k d rae) := by
  intro c hI
  apply Post.mono (spec_addToESDTBalance a k d rae c)
  rintro _ c' ⟨t, _, ht, _, _, _, hg, hw⟩
  rw [hw]; exact h _ _ hI ⟨t, ht, hg⟩

/-- `saveESDTNFTToken` looks at the flags of the token it is GIVEN, not of the entry it replaces -/
theorem gated_saveNFT {a tk : Bytes} {t : Token} {rae : Bool}
    (h : ∀ A v, I A → GateOpen A a tk t rae → I (A.write a (nftKey tk (mdNonce t)) v)) : Pres I (saveNFT a tk t rae) := by
  intro c hI
  apply Post.mono (spec_saveNFT a tk t rae c)
  rintro _ c' ⟨_, hg, _, _, hw⟩
  rw [hw]; exact h _ _ hI hg

theorem gated_addNFTToDestination (env : Env) {dst tk : Bytes} {t : Token} (mv : Bool) {rae : Bool}
    (h : ∀ A v, I A → HeldOpen dst (nftKey tk (mdNonce t)) tk rae A → I (A.write dst (nftKey tk (mdNonce t)) v)) :
    Pres I (addNFTToDestination env dst t tk mv rae) := by
  intro c hI
  apply Post.mono (spec_addNFTToDestination env dst t tk mv rae c)
  rintro _ c' ⟨cur, _, _, hcur, _, hg, _, _, _, _, _, hw⟩
  rw [hw]; exact h _ _ hI ⟨cur, hcur, hg⟩

end Esdt
