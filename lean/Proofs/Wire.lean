/-
  Proofs/Wire.lean — what the message-passing worlds of the three transfer functions (Proofs/Network.lean, NetworkNFT.lean,
  NetworkMulti.lean) have in common.  A step of such a world leaves it alone, or runs a user call on the sender's shard and
  appends the messages it emits, or runs the delivery / refund call of an in-flight message on the shard of that call's
  receiver and erases the message, or flags an undeliverable message as a refund (`Wire.Move`).  A predicate on shards and
  one on messages (`Move.all`), and a sum over shards plus a sum over messages (`Move.sum`), survive a move as soon as they
  survive its calls: the theorems about a world say what ONE call does, the bookkeeping over the lists is here.
-/
import Model.Fn
namespace Esdt

inductive NStep
  | user (c : Call)        -- a transaction: executed on the sender's shard
  | deliver (i : Nat)      -- the i-th in-flight message reaches its destination shard
  | refund (i : Nat)       -- the i-th in-flight message (a refund) reaches the origin shard

/-! ### lists -/

theorem sum_map_set {α : Type} (f : α → Int) : ∀ (l : List α) (s : Nat) (x x' : α), l[s]? = some x →
    ((l.set s x').map f).sum = (l.map f).sum - f x + f x' := by
  intro l
  induction l with
  | nil => intro s x x' h; simp at h
  | cons y ys ih =>
    intro s x x' h
    cases s with
    | zero => simp at h; subst h; simp; omega
    | succ s =>
      simp at h
      have := ih s x x' h
      simp only [List.set_cons_succ, List.map_cons, List.sum_cons]
      omega

theorem sum_map_eraseIdx {α : Type} (g : α → Int) : ∀ (l : List α) (i : Nat) (x : α), l[i]? = some x →
    ((l.eraseIdx i).map g).sum = (l.map g).sum - g x
  | [], _, _, h => by simp at h
  | y :: ys, 0, x, h => by simp at h; subst h; simp; omega
  | y :: ys, i + 1, x, h => by
    have := sum_map_eraseIdx g ys i x (by simpa using h)
    simp only [List.eraseIdx_cons_succ, List.map_cons, List.sum_cons]
    omega

theorem mem_set_of {α : Type} (l : List α) (s : Nat) (x' : α) (P : α → Prop) (h : ∀ y ∈ l, P y) (hx : P x') :
    ∀ y ∈ l.set s x', P y := by
  intro y hy
  rcases List.mem_or_eq_of_mem_set hy with h1 | h1
  · exact h y h1
  · rw [h1]; exact hx

theorem mem_set_self {α : Type} {l : List α} {s : Nat} {x : α} (h : l[s]? = some x) (y : α) : y ∈ l.set s y :=
  List.mem_of_getElem? (i := s) (by simp [(List.getElem?_eq_some_iff.mp h).1])

/-! ### one built-in function run on one shard -/

/-- run `fn` on shard `s`; failed calls are rolled back (`none`) -/
def runShard (fn : Env → Call → M VMOutput) (e : Env) (S : List Accts) (s : Nat) (c : Call) : Option (VMOutput × Accts) :=
  match S[s]? with
  | none => none
  | some A =>
    match fn { e with self := s } c { accts := A } with
    | .ok (out, ctx') => some (out, ctx'.accts)
    | _ => none

theorem runShard_some {fn : Env → Call → M VMOutput} {e : Env} {S : List Accts} {s : Nat} {c : Call} {out : VMOutput}
    {A' : Accts} (h : runShard fn e S s c = some (out, A')) :
    ∃ A ctx', S[s]? = some A ∧ fn { e with self := s } c { accts := A } = .ok (out, ctx') ∧ ctx'.accts = A' := by
  unfold runShard at h
  split at h
  · cases h
  · rename_i A hA
    split at h
    · rename_i out' ctx' he
      cases h
      exact ⟨A, ctx', hA, he, rfl⟩
    · cases h

/-- call `c` of `fn`, run on shard `s` of `S`, found `A` there and succeeded with `out`, leaving `ctx'` -/
structure Ran (fn : Env → Call → M VMOutput) (e : Env) (S : List Accts) (s : Nat) (c : Call) (out : VMOutput) (A : Accts)
    (ctx' : Ctx) : Prop where
  shard : S[s]? = some A
  run : fn { e with self := s } c { accts := A } = .ok (out, ctx')

theorem Ran.mem {fn : Env → Call → M VMOutput} {e : Env} {S : List Accts} {s : Nat} {c : Call} {out : VMOutput} {A : Accts}
    {ctx' : Ctx} (h : Ran fn e S s c out A ctx') : A ∈ S := List.mem_of_getElem? h.shard

/-! ### a message protocol and the moves of its world -/

structure Wire (μ : Type) where
  fn : Env → Call → M VMOutput
  /-- the messages a successful user call leaves for other shards -/
  emit : Env → Call → VMOutput → List μ
  refund : μ → Bool
  /-- the message, flagged as travelling back -/
  bounce : μ → μ
  dcall : μ → Call
  rcall : μ → Call

variable {μ : Type}

/-- the call an in-flight message turns into when it arrives: its delivery call, or, once flagged, its refund call -/
inductive Wire.Leg (W : Wire μ) (m : μ) : NStep → Nat → Call → Prop
  | deliver {i : Nat} : W.refund m = false → Leg W m (.deliver i) i (W.dcall m)
  | refund {i : Nat} : W.refund m = true → Leg W m (.refund i) i (W.rcall m)

inductive Wire.Move (W : Wire μ) (e : Env) (S : List Accts) (M : List μ) : NStep → List Accts → List μ → Prop
  | stay {st : NStep} : Move W e S M st S M
  | sent {c : Call} {out : VMOutput} {A : Accts} {ctx' : Ctx} :
      Ran W.fn e S (shardOf e.nshards c.caller) c out A ctx' →
      Move W e S M (.user c) (S.set (shardOf e.nshards c.caller) ctx'.accts) (M ++ W.emit e c out)
  | arrived {st : NStep} {i : Nat} {m : μ} {c : Call} {out : VMOutput} {A : Accts} {ctx' : Ctx} :
      M[i]? = some m → W.Leg m st i c → Ran W.fn e S (shardOf e.nshards c.rcv) c out A ctx' →
      Move W e S M st (S.set (shardOf e.nshards c.rcv) ctx'.accts) (M.eraseIdx i)
  | bounced {i : Nat} {m : μ} : M[i]? = some m → W.refund m = false → Move W e S M (.deliver i) S (M.set i (W.bounce m))

variable {W : Wire μ} {e : Env} {S S' : List Accts} {M M' : List μ} {st : NStep}

/-- a predicate on shards and one on messages survive a move if they survive its calls -/
theorem Wire.Move.all (h : W.Move e S M st S' M') {P : Accts → Prop} {Q : μ → Prop} (hP : ∀ A ∈ S, P A)
    (hQ : ∀ m ∈ M, Q m)
    (sent : ∀ {c out A ctx'}, st = .user c → Ran W.fn e S (shardOf e.nshards c.caller) c out A ctx' →
      P ctx'.accts ∧ ∀ m ∈ W.emit e c out, Q m)
    (arrived : ∀ {i m c out A ctx'}, m ∈ M → W.Leg m st i c → Ran W.fn e S (shardOf e.nshards c.rcv) c out A ctx' →
      P ctx'.accts)
    (bounced : ∀ m ∈ M, W.refund m = false → Q (W.bounce m)) :
    (∀ A ∈ S', P A) ∧ ∀ m ∈ M', Q m := by
  cases h with
  | stay => exact ⟨hP, hQ⟩
  | sent hr =>
    obtain ⟨h1, h2⟩ := sent rfl hr
    exact ⟨mem_set_of _ _ _ _ hP h1, fun m hm => (List.mem_append.mp hm).elim (hQ m) (h2 m)⟩
  | arrived hm hl hr =>
    exact ⟨mem_set_of _ _ _ _ hP (arrived (List.mem_of_getElem? hm) hl hr),
      fun m' hm' => hQ m' (List.mem_of_mem_eraseIdx hm')⟩
  | bounced hm hf => exact ⟨hP, mem_set_of _ _ _ _ hQ (bounced _ (List.mem_of_getElem? hm) hf)⟩

/-- Σ over the shards of `f` + Σ over the messages of `g` is conserved by a move if every call moves `f` of its shard by
    what it emits / consumes (the state a call leaves is one of the new shards) -/
theorem Wire.Move.sum (h : W.Move e S M st S' M') (f : Accts → Int) (g : μ → Int)
    (sent : ∀ {c out A ctx'}, st = .user c → Ran W.fn e S (shardOf e.nshards c.caller) c out A ctx' → ctx'.accts ∈ S' →
      f ctx'.accts + ((W.emit e c out).map g).sum = f A)
    (arrived : ∀ {i m c out A ctx'}, m ∈ M → W.Leg m st i c → Ran W.fn e S (shardOf e.nshards c.rcv) c out A ctx' →
      ctx'.accts ∈ S' → f ctx'.accts = f A + g m)
    (bounced : ∀ m ∈ M, g (W.bounce m) = g m) :
    (S'.map f).sum + (M'.map g).sum = (S.map f).sum + (M.map g).sum := by
  cases h with
  | stay => rfl
  | sent hr =>
    have := sent rfl hr (mem_set_self hr.shard _)
    rw [sum_map_set f S _ _ _ hr.shard, List.map_append, List.sum_append]
    omega
  | arrived hm hl hr =>
    have := arrived (List.mem_of_getElem? hm) hl hr (mem_set_self hr.shard _)
    rw [sum_map_set f S _ _ _ hr.shard, sum_map_eraseIdx g M _ _ hm]
    omega
  | bounced hm hf =>
    have := bounced _ (List.mem_of_getElem? hm)
    rw [sum_map_set g M _ _ _ hm]
    omega

end Esdt
