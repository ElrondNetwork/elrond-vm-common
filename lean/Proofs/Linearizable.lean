/-
  Proofs/Linearizable.lean — C19: operations on a shared object each performed as ONE critical section of a readers-writer
  lock (the shape the lock discipline `D` of Props/C19 establishes for `MutexMap` and for the priced function objects) are
  LINEARIZABLE: for any number of threads and any interleaving, the accesses — in the order they happen — form a legal
  sequential history of the object's specification that yields the current state and every returned output, and each
  access lies between its operation's call and its return.  Threads are explicit here (Props/C19's lock model is the
  counter abstraction of this one).
-/
import Model.MapSpec
namespace Lin

/-- where a thread is: idle; has called `op`; holds the lock; has performed the access (still holding the lock); has
    released the lock (about to return `out`) -/
inductive Pc (ι ο : Type)
  | idle
  | called (op : ι)
  | locked (op : ι)
  | accessed (op : ι) (out : ο)
  | released (op : ι) (out : ο)

inductive Ev (ι ο : Type)
  | call (t : Nat) (op : ι)
  | lin (t : Nat) (op : ι) (out : ο)      -- the access: the linearization point
  | ret (t : Nat) (op : ι) (out : ο)

def Ev.tid {ι ο : Type} : Ev ι ο → Nat
  | .call t _ => t | .lin t _ _ => t | .ret t _ _ => t

structure St (σ ι ο : Type) where
  data : σ
  pcs : Nat → Pc ι ο
  evs : List (Ev ι ο)         -- oldest first

variable {σ ι ο : Type}

def Pc.holds : Pc ι ο → Bool
  | .locked _ | .accessed _ _ => true
  | _ => false

def Pc.holdsW (S : Spec σ ι ο) : Pc ι ο → Bool
  | .locked op | .accessed op _ => S.isWrite op
  | _ => false

def upd (f : Nat → Pc ι ο) (t : Nat) (p : Pc ι ο) : Nat → Pc ι ο := fun u => if u = t then p else f u

inductive Step (S : Spec σ ι ο) : St σ ι ο → St σ ι ο → Prop
  | call (s : St σ ι ο) (t : Nat) (op : ι) : s.pcs t = .idle →
      Step S s { s with pcs := upd s.pcs t (.called op), evs := s.evs ++ [.call t op] }
  /-- the read lock is granted while no thread holds the write lock -/
  | acquireR (s : St σ ι ο) (t : Nat) (op : ι) : s.pcs t = .called op → S.isWrite op = false →
      (∀ u, (s.pcs u).holdsW S = false) → Step S s { s with pcs := upd s.pcs t (.locked op) }
  /-- the write lock is granted while no thread holds the lock at all -/
  | acquireW (s : St σ ι ο) (t : Nat) (op : ι) : s.pcs t = .called op → S.isWrite op = true →
      (∀ u, (s.pcs u).holds = false) → Step S s { s with pcs := upd s.pcs t (.locked op) }
  /-- the access, inside the critical section -/
  | access (s : St σ ι ο) (t : Nat) (op : ι) : s.pcs t = .locked op →
      Step S s { data := (S.apply s.data op).1, pcs := upd s.pcs t (.accessed op (S.apply s.data op).2),
                 evs := s.evs ++ [.lin t op (S.apply s.data op).2] }
  | release (s : St σ ι ο) (t : Nat) (op : ι) (out : ο) : s.pcs t = .accessed op out →
      Step S s { s with pcs := upd s.pcs t (.released op out) }
  | ret (s : St σ ι ο) (t : Nat) (op : ι) (out : ο) : s.pcs t = .released op out →
      Step S s { s with pcs := upd s.pcs t .idle, evs := s.evs ++ [.ret t op out] }

inductive Reach (S : Spec σ ι ο) (d0 : σ) : St σ ι ο → Prop
  | init : Reach S d0 { data := d0, pcs := fun _ => .idle, evs := [] }
  | step {s s' : St σ ι ο} : Reach S d0 s → Step S s s' → Reach S d0 s'

/-! ### mutual exclusion with explicit threads -/

def Excl (S : Spec σ ι ο) (s : St σ ι ο) : Prop :=
  ∀ t u, t ≠ u → (s.pcs t).holdsW S = true → (s.pcs u).holds = false

theorem upd_same (f : Nat → Pc ι ο) (t : Nat) (p : Pc ι ο) : upd f t p t = p := by simp [upd]
theorem upd_other (f : Nat → Pc ι ο) (t u : Nat) (p : Pc ι ο) (h : u ≠ t) : upd f t p u = f u := by simp [upd, h]

theorem holds_of_holdsW (S : Spec σ ι ο) (p : Pc ι ο) (h : p.holdsW S = true) : p.holds = true := by
  cases p <;> simp [Pc.holdsW, Pc.holds] at h ⊢

theorem excl_step (S : Spec σ ι ο) (s s' : St σ ι ο) (h : Excl S s) (st : Step S s s') : Excl S s' := by
  -- a step that changes only thread `t0`'s pc to `p`, where `p` holds (as writer) only if the old pc did, or where
  -- the grant condition excludes the conflict
  have keep : ∀ (t0 : Nat) (p : Pc ι ο), (p.holds = true → (s.pcs t0).holds = true) →
      (p.holdsW S = true → (s.pcs t0).holdsW S = true) → Excl S { s with pcs := upd s.pcs t0 p } := by
    intro t0 p h1 h2 t u htu hw
    dsimp only at hw ⊢
    by_cases ht : t = t0
    · subst ht
      rw [upd_same] at hw
      rw [upd_other _ _ _ _ (Ne.symm htu)]
      exact h t u htu (h2 hw)
    · rw [upd_other _ _ _ _ ht] at hw
      by_cases hu : u = t0
      · subst hu
        rw [upd_same]
        cases hp : p.holds with
        | false => rfl
        | true => have := h t u htu hw; rw [h1 hp] at this; cases this
      · rw [upd_other _ _ _ _ hu]; exact h t u htu hw
  cases st with
  | call t op hi =>
    exact keep t (.called op) (fun hh => by simp [Pc.holds] at hh) (fun hh => by simp [Pc.holdsW] at hh)
  | acquireR t op hc hr hnone =>
    intro a u hau hw
    dsimp only at hw ⊢
    by_cases ha : a = t
    · subst ha; rw [upd_same] at hw; simp [Pc.holdsW, hr] at hw
    · rw [upd_other _ _ _ _ ha] at hw
      rw [hnone a] at hw; cases hw
  | acquireW t op hc hwr hnone =>
    intro a u hau hw
    dsimp only at hw ⊢
    by_cases hu : u = t
    · subst hu
      have ha : a ≠ u := hau
      rw [upd_other _ _ _ _ ha] at hw
      have := hnone a
      rw [holds_of_holdsW S _ hw] at this; cases this
    · rw [upd_other _ _ _ _ hu]; exact hnone u
  | access t op hl =>
    have := keep t (.accessed op (S.apply s.data op).2) (fun _ => by rw [hl]; rfl)
      (fun hh => by rw [hl]; simpa [Pc.holdsW] using hh)
    intro a u hau hw
    exact this a u hau hw
  | release t op out ha =>
    exact keep t (.released op out) (fun hh => by simp [Pc.holds] at hh) (fun hh => by simp [Pc.holdsW] at hh)
  | ret t op out hr =>
    have := keep t (.idle) (fun hh => by simp [Pc.holds] at hh) (fun hh => by simp [Pc.holdsW] at hh)
    intro a u hau hw
    exact this a u hau hw

theorem excl_reach (S : Spec σ ι ο) (d0 : σ) (s : St σ ι ο) (h : Reach S d0 s) : Excl S s := by
  induction h with
  | init => intro t u _ hw; simp [Pc.holdsW] at hw
  | step _ st ih => exact excl_step S _ _ ih st

/-! ### the accesses form a legal sequential history -/

/-- `Legal S d l d'`: performing the operations of `l` one after the other from `d` yields exactly the recorded outputs
    and ends in `d'` -/
inductive Legal (S : Spec σ ι ο) : σ → List (ι × ο) → σ → Prop
  | nil (d : σ) : Legal S d [] d
  | cons (d : σ) (op : ι) (rest : List (ι × ο)) (d' : σ) :
      Legal S (S.apply d op).1 rest d' → Legal S d ((op, (S.apply d op).2) :: rest) d'

theorem Legal.snoc (S : Spec σ ι ο) (d : σ) (l : List (ι × ο)) (d' : σ) (h : Legal S d l d') (op : ι) :
    Legal S d (l ++ [(op, (S.apply d' op).2)]) (S.apply d' op).1 := by
  induction h with
  | nil d => exact Legal.cons d op [] _ (Legal.nil _)
  | cons d op' rest d' _ ih => exact Legal.cons d op' _ _ ih

/-- the sequential history: the accesses in the order they happened -/
def lins : List (Ev ι ο) → List (ι × ο)
  | [] => []
  | .lin _ op out :: rest => (op, out) :: lins rest
  | _ :: rest => lins rest

theorem lins_append (l1 l2 : List (Ev ι ο)) : lins (l1 ++ l2) = lins l1 ++ lins l2 := by
  induction l1 with
  | nil => rfl
  | cons e rest ih => cases e <;> simp [lins, ih]

theorem legal_reach (S : Spec σ ι ο) (d0 : σ) (s : St σ ι ο) (h : Reach S d0 s) : Legal S d0 (lins s.evs) s.data := by
  induction h with
  | init => exact Legal.nil d0
  | step _ st ih =>
    cases st with
    | call t op _ => simpa [lins_append, lins] using ih
    | acquireR t op _ _ _ => exact ih
    | acquireW t op _ _ _ => exact ih
    | access t op _ =>
      simp only [lins_append, lins]
      exact Legal.snoc S d0 _ _ ih op
    | release t op out _ => exact ih
    | ret t op out _ => simpa [lins_append, lins] using ih

/-! ### every access lies between its operation's call and its return -/

/-- the events of one thread, read from the start: `idle` after complete call · access · return triples, `called op`
    after a call, `accessed op out` after the access of that call; anything else is not a thread's history -/
def parse (t : Nat) : List (Ev ι ο) → Pc ι ο → Option (Pc ι ο)
  | [], p => some p
  | e :: rest, p =>
    if e.tid ≠ t then parse t rest p else
    match e, p with
    | .call _ op, .idle => parse t rest (.called op)
    | .lin _ op out, .called _ => parse t rest (.accessed op out)
    | .ret _ _ _, .accessed _ _ => parse t rest .idle
    | _, _ => none

/-- the thread-local view of a pc: holding or not holding the lock makes no event -/
def Pc.view : Pc ι ο → Pc ι ο
  | .locked op => .called op
  | .released op out => .accessed op out
  | p => p

theorem parse_append (t : Nat) (l1 l2 : List (Ev ι ο)) (p : Pc ι ο) :
    parse t (l1 ++ l2) p = (parse t l1 p).bind (parse t l2) := by
  induction l1 generalizing p with
  | nil => simp [parse]
  | cons e rest ih =>
    simp only [List.cons_append, parse]
    split
    · exact ih p
    · split <;> first | exact ih _ | rfl

theorem parse_others (t : Nat) (es : List (Ev ι ο)) (p : Pc ι ο) (h : ∀ e ∈ es, e.tid ≠ t) : parse t es p = some p := by
  induction es with
  | nil => rfl
  | cons e es ih => simp [parse, h e (by simp), ih fun x hx => h x (by simp [hx])]

/-- a step of thread `t0` to pc `p'` that appends the events `es`, all its own: every thread's reading is kept if `t0`'s is -/
theorem order_keep (pcs : Nat → Pc ι ο) (evs es : List (Ev ι ο)) (t0 t : Nat) (p' : Pc ι ο)
    (ih : parse t evs .idle = some (pcs t).view) (hes : ∀ e ∈ es, e.tid = t0)
    (h0 : parse t0 es (pcs t0).view = some p'.view) :
    parse t (evs ++ es) .idle = some (upd pcs t0 p' t).view := by
  rw [parse_append, ih]
  by_cases ht : t = t0
  · subst ht; rw [upd_same]; exact h0
  · rw [upd_other _ _ _ _ ht]
    exact parse_others t es _ fun e he h => ht (h.symm.trans (hes e he))

theorem order_reach (S : Spec σ ι ο) (d0 : σ) (s : St σ ι ο) (h : Reach S d0 s) (t : Nat) :
    parse t s.evs .idle = some (s.pcs t).view := by
  induction h with
  | init => rfl
  | step _ st ih =>
    cases st with
    | call t0 op hi => exact order_keep _ _ [_] t0 t _ ih (by simp [Ev.tid]) (by simp [hi, parse, Ev.tid, Pc.view])
    | acquireR t0 op hc _ _ => simpa using order_keep _ _ [] t0 t (.locked op) ih (by simp) (by simp [hc, parse, Pc.view])
    | acquireW t0 op hc _ _ => simpa using order_keep _ _ [] t0 t (.locked op) ih (by simp) (by simp [hc, parse, Pc.view])
    | access t0 op hl => exact order_keep _ _ [_] t0 t _ ih (by simp [Ev.tid]) (by simp [hl, parse, Ev.tid, Pc.view])
    | release t0 op out ha =>
      simpa using order_keep _ _ [] t0 t (.released op out) ih (by simp) (by simp [ha, parse, Pc.view])
    | ret t0 op out hr => exact order_keep _ _ [_] t0 t _ ih (by simp [Ev.tid]) (by simp [hr, parse, Ev.tid, Pc.view])

/-- LINEARIZABILITY of one-critical-section-per-operation objects: in every reachable state of every execution (any
    number of threads, any interleaving)
    (1) the accesses, in the order they happened, are a legal sequential history of the specification from the initial
        state — it yields the current state and exactly the outputs the operations return;
    (2) every thread's events read call · access · return, call · access · return, … — each access lies between its
        operation's call and its return, so the sequential history respects the real-time order of the operations;
    (3) a thread inside a WRITE section is alone inside any section. -/
theorem linearizable (S : Spec σ ι ο) (d0 : σ) (s : St σ ι ο) (h : Reach S d0 s) :
    Legal S d0 (lins s.evs) s.data ∧ (∀ t, parse t s.evs .idle = some (s.pcs t).view) ∧ Excl S s :=
  ⟨legal_reach S d0 s h, order_reach S d0 s h, excl_reach S d0 s h⟩

/-! ### two instances: the map beneath the container, and a priced function object -/

/-- a priced function object: `SetNewGasConfig` installs a schedule under the write lock, an execution reads the
    schedule (its own cost and the base costs) inside ONE read section -/
inductive CfgOp (γ : Type) | install (g : γ) | read
def cfgSpec (γ : Type) : Spec γ (CfgOp γ) γ where
  apply g
    | .install g' => (g', g')
    | .read => (g, g)
  isWrite
    | .install _ => true
    | .read => false

/-- what an execution reads is ONE schedule: the initial one or one some `SetNewGasConfig` installed — never a mixture -/
theorem legal_cfg_outputs {γ : Type} (d0 d : γ) (l : List (CfgOp γ × γ)) (h : Legal (cfgSpec γ) d0 l d) :
    ∀ p ∈ l, p.2 = d0 ∨ ∃ q ∈ l, q.1 = .install p.2 := by
  induction h with
  | nil d => intro p hp; cases hp
  | cons d op rest d' hrest ih =>
    intro p hp
    simp only [List.mem_cons] at hp
    rcases hp with rfl | hp
    · cases op with
      | install g' => exact Or.inr ⟨_, List.mem_cons_self, rfl⟩
      | read => exact Or.inl rfl
    · rcases ih p hp with h1 | ⟨q, hq, hq'⟩
      · cases op with
        | install g' =>
          -- the rest starts from g': an output equal to g' was installed by this very operation
          exact Or.inr ⟨_, List.mem_cons_self, by show CfgOp.install g' = CfgOp.install p.2; rw [h1]; rfl⟩
        | read => exact Or.inl (by simpa [cfgSpec] using h1)
      · exact Or.inr ⟨q, List.mem_cons_of_mem _ hq, hq'⟩

/-- the operations that take only the READ lock do not change the object — which is why they may overlap: between two
    accesses of readers inside one read phase the state is the same -/
theorem mapSpec_reads_pure {κ ν : Type} [DecidableEq κ] (m : List (κ × ν)) (op : MapOp κ ν)
    (h : (mapSpec (κ := κ) (ν := ν)).isWrite op = false) : (mapSpec.apply m op).1 = m := by
  cases op <;> simp [mapSpec] at h ⊢

theorem cfgSpec_reads_pure {γ : Type} (g : γ) (op : CfgOp γ) (h : (cfgSpec γ).isWrite op = false) :
    ((cfgSpec γ).apply g op).1 = g := by
  cases op <;> simp [cfgSpec] at h ⊢

/-- an access by a reader leaves the data as it is (for any object whose read operations are pure) -/
theorem reader_access_keeps_data {σ ι ο : Type} (S : Spec σ ι ο)
    (hpure : ∀ d op, S.isWrite op = false → (S.apply d op).1 = d) (s s' : St σ ι ο) (st : Step S s s')
    (hchg : s'.data ≠ s.data) : ∃ t op, s.pcs t = .locked op ∧ S.isWrite op = true := by
  cases st with
  | call t op _ => exact absurd rfl hchg
  | acquireR t op _ _ _ => exact absurd rfl hchg
  | acquireW t op _ _ _ => exact absurd rfl hchg
  | access t op hl =>
    refine ⟨t, op, hl, ?_⟩
    cases hw : S.isWrite op with
    | true => rfl
    | false => exact absurd (hpure s.data op hw) hchg
  | release t op out _ => exact absurd rfl hchg
  | ret t op out _ => exact absurd rfl hchg

end Lin
