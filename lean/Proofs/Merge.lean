/-
  Proofs/Merge.lean — MergeOutputAccounts over the pointer heap: values, and "the merged-in account is
  never mutated, not even through later merges into the same result".
-/
import Model.Merge
namespace Esdt

theorem Heap.get_set_same (h : Heap) (p : Nat) (v : Int) : (h.set p v).get p = v := by
  simp [Heap.set, Heap.get]

theorem Heap.get_set_ne (h : Heap) (p q : Nat) (v : Int) (hne : p ≠ q) : (h.set p v).get q = h.get q := by
  have : (p == q) = false := by simp [hne]
  simp [Heap.set, Heap.get, this]

theorem Heap.get_alloc_old (h : Heap) (v : Int) (q : Nat) (hq : q < h.next) : (h.alloc v).1.get q = h.get q := by
  have hne : h.next ≠ q := by omega
  have : (h.next == q) = false := by simp [hne]
  simp [Heap.alloc, Heap.get, this]

theorem Heap.get_alloc_new (h : Heap) (v : Int) : (h.alloc v).1.get (h.alloc v).2 = v := by
  simp [Heap.alloc, Heap.get]

/-- pointers of an account are allocated (below `next`) -/
def OA.Alloc (o : OA) (h : Heap) : Prop :=
  (∀ p, o.balance = some p → p < h.next) ∧ (∀ p, o.delta = some p → p < h.next)

/-- the result's delta cell is not a cell of `s` (independently constructed accounts) -/
def OA.DeltaSep (o s : OA) : Prop :=
  ∀ p, o.delta = some p → s.delta ≠ some p ∧ s.balance ≠ some p

/-- value view of an account's cells -/
def OA.cells (s : OA) (h : Heap) : Option Int × Option Int := (s.balance.map h.get, s.delta.map h.get)

/-- the pointer of the result's delta after a merge, and the heap bound -/
theorem mergeOA_next (h : Heap) (o src : OA) : h.next ≤ (mergeOA h o src).1.next := by
  unfold mergeOA
  cases o.delta <;> cases src.delta <;> simp [Heap.alloc, Heap.set]

/-- one merge changes no cell below `next` other than the result's own delta cell -/
theorem mergeOA_frame (h : Heap) (o src : OA) (q : Nat) (hq : q < h.next) (hne : o.delta ≠ some q) :
    (mergeOA h o src).1.get q = h.get q := by
  unfold mergeOA
  cases hod : o.delta with
  | none =>
    cases src.delta with
    | none => simp [Heap.get_alloc_old _ _ _ hq]
    | some sq =>
      simp only []
      have hne : (h.alloc 0).2 ≠ q := by simp only [Heap.alloc]; omega
      rw [Heap.get_set_ne _ _ _ _ hne, Heap.get_alloc_old _ _ _ hq]
  | some p =>
    have hpq : p ≠ q := by intro e; subst e; exact hne hod
    cases src.delta with
    | none => simp
    | some sq => simp only []; rw [Heap.get_set_ne _ _ _ _ hpq]

/-- the result's delta pointer after a merge is the old one, or a fresh cell -/
theorem mergeOA_delta_ptr (h : Heap) (o src : OA) :
    ∃ p, (mergeOA h o src).2.delta = some p ∧ (o.delta = some p ∨ (o.delta = none ∧ p = h.next)) := by
  unfold mergeOA
  cases hod : o.delta with
  | none => exact ⟨h.next, by cases src.delta <;> simp [Heap.alloc], Or.inr ⟨rfl, rfl⟩⟩
  | some p => exact ⟨p, by cases src.delta <;> simp, Or.inl rfl⟩

/-- C20: one merge keeps the cells of every allocated account separate from the result's delta cell, whichever account is
    merged in; in particular it never mutates the account merged in -/
theorem mergeOA_cells (h : Heap) (o src s : OA) (ha : s.Alloc h) (hsep : o.DeltaSep s) :
    s.cells (mergeOA h o src).1 = s.cells h := by
  unfold OA.cells
  have hb : ∀ p, s.balance = some p → (mergeOA h o src).1.get p = h.get p := fun p hp =>
    mergeOA_frame h o src p (ha.1 p hp) (fun he => (hsep p he).2 hp)
  have hd : ∀ p, s.delta = some p → (mergeOA h o src).1.get p = h.get p := fun p hp =>
    mergeOA_frame h o src p (ha.2 p hp) (fun he => (hsep p he).1 hp)
  cases hbal : s.balance <;> cases hdel : s.delta <;> simp [hb, hd, hbal, hdel]

/-- separation is preserved: after a merge the result's delta cell is still no cell of any allocated,
    separate account -/
theorem mergeOA_sep_preserved (h : Heap) (o src s : OA) (ha : s.Alloc h) (hsep : o.DeltaSep s) :
    (mergeOA h o src).2.DeltaSep s := by
  obtain ⟨p, hp, hcase⟩ := mergeOA_delta_ptr h o src
  intro q hq
  rw [hp] at hq
  have hqp : p = q := by cases hq; rfl
  subst hqp
  rcases hcase with hold | ⟨_, hnew⟩
  · exact hsep p hold
  · constructor
    · intro he; have := ha.2 _ he; omega
    · intro he; have := ha.1 _ he; omega

/-- … not even through later merges into the same result -/
theorem mergeSeq_unchanged (srcs : List OA) : ∀ (h : Heap) (o s : OA), s.Alloc h → o.DeltaSep s →
    s.cells (mergeSeq h o srcs).1 = s.cells h := by
  induction srcs with
  | nil => intro h o s _ _; rfl
  | cons x rest ih =>
    intro h o s ha hsep
    simp only [mergeSeq]
    have hnext := mergeOA_next h o x
    have ha' : s.Alloc (mergeOA h o x).1 :=
      ⟨fun p hp => Nat.lt_of_lt_of_le (ha.1 p hp) hnext, fun p hp => Nat.lt_of_lt_of_le (ha.2 p hp) hnext⟩
    rw [ih _ _ s ha' (mergeOA_sep_preserved h o x s ha hsep)]
    exact mergeOA_cells h o x s ha hsep

/-! ### values -/

def optGet (h : Heap) (p : Option Nat) : Int := match p with | some q => h.get q | none => 0

/-- balance deltas are added (a nil delta counts as 0) -/
theorem mergeOA_delta_value (h : Heap) (o src : OA) (ha : src.Alloc h) :
    optGet (mergeOA h o src).1 (mergeOA h o src).2.delta = optGet h o.delta + optGet h src.delta := by
  unfold mergeOA optGet
  cases hod : o.delta with
  | none =>
    cases hsd : src.delta with
    | none => simp [Heap.get_alloc_new]
    | some sq =>
      have hsq : sq < h.next := ha.2 sq hsd
      simp only []
      rw [Heap.get_set_same, Heap.get_alloc_new]
      have := Heap.get_alloc_old h 0 sq hsq
      simp [this]
  | some p =>
    cases hsd : src.delta with
    | none => simp
    | some sq => simp only []; rw [Heap.get_set_same]

theorem mergeOA_nonce (h : Heap) (o src : OA) : (mergeOA h o src).2.nonce = max o.nonce src.nonce := by
  unfold mergeOA
  cases o.delta <;> cases src.delta <;> simp <;> split <;> omega

theorem mergeOA_transfers (h : Heap) (o src : OA) :
    (mergeOA h o src).2.transfers = o.transfers ++ src.transfers.drop o.transfers.length := by
  unfold mergeOA
  cases o.delta <;> cases src.delta <;> simp <;> intro hle <;> rw [List.drop_eq_nil_of_le hle] <;> simp

theorem storageLookup_append (a b : List (Bytes × (Bytes × Bytes))) (k : Bytes) :
    storageLookup (a ++ b) k = match storageLookup a k with | some v => some v | none => storageLookup b k := by
  unfold storageLookup
  rw [List.find?_append]
  cases List.find? (fun p => p.1 == k) a <;> simp

theorem find_filter_key (o : List (Bytes × (Bytes × Bytes))) (k : Bytes) (f : Bytes × (Bytes × Bytes) → Bool)
    (hf : ∀ p, p.1 = k → f p = true) :
    List.find? (fun p => p.1 == k) (o.filter f) = List.find? (fun p => p.1 == k) o := by
  induction o with
  | nil => rfl
  | cons p rest ih =>
    by_cases hk : p.1 = k
    · have hfp := hf p hk
      simp [List.filter, hfp, List.find?, hk]
    · have hk' : (p.1 == k) = false := by simp [hk]
      cases hfp : f p
      · simp [List.filter, hfp, List.find?, hk', ih]
      · simp [List.filter, hfp, List.find?, hk', ih]

/-- later storage updates win; keys only in the older account are kept -/
theorem mergeStorage_lookup (o src : List (Bytes × (Bytes × Bytes))) (k : Bytes) :
    storageLookup (mergeStorage o src) k =
      match storageLookup src k with | some v => some v | none => storageLookup o k := by
  unfold mergeStorage
  rw [storageLookup_append]
  cases hs : storageLookup src k with
  | some v => rfl
  | none =>
    simp only []
    have := find_filter_key o k (fun p => (storageLookup src p.1).isNone) (by intro p hp; simp [hp, hs])
    unfold storageLookup at *
    rw [this]

theorem mergeOA_storage (h : Heap) (o src : OA) :
    (mergeOA h o src).2.storage = mergeStorage o.storage src.storage := by
  unfold mergeOA
  cases o.delta <;> cases src.delta <;> rfl

end Esdt
