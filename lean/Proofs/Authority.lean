/-
  Proofs/Authority.lean — C03: system-only functions, owner / DNS checks, the guards of the create-role hand-over.
  (The role gates are part of the specifications of the role-gated functions: `*_spec`.)
-/
import Proofs.Writes
import Proofs.Ledger
namespace Esdt

/-- system-only functions (the caller check is among the first guards; for freeze / unfreeze / wipe it is part of their
    exact effects) -/
theorem sys_esdtRoles (s : Bool) (env : Env) (c : Call) (ctx : Ctx) :
    Post (esdtRoles s env c) ctx (fun _ _ => c.caller = esdtSCAddress) := by
  unfold esdtRoles
  apply Post.bind; apply Post.intro; intro _ _
  apply Post.bind; apply Post.guardE; intro hsys
  exact Post.intro fun _ _ => by simpa using hsys
theorem sys_esdtFreezeWipe (k : FreezeKind) (env : Env) (c : Call) (ctx : Ctx) :
    Post (esdtFreezeWipe k env c) ctx (fun _ _ => c.caller = esdtSCAddress) := by
  by_cases hk : k = .wipe
  · subst hk
    apply (wipe_effect env c ctx).mono
    rintro _ _ ⟨_, _, _, hsys, _⟩
    exact hsys
  · apply (toggleFreeze_effect k hk env c ctx).mono
    rintro _ _ ⟨_, _, _, hsys, _⟩
    exact hsys
theorem sys_esdtPause (p : Bool) (env : Env) (c : Call) (ctx : Ctx) :
    Post (esdtPause p env c) ctx (fun _ _ => c.caller = esdtSCAddress) := by
  unfold esdtPause
  apply Post.bind; apply Post.guardE; intro _
  apply Post.bind; apply Post.guardE; intro _
  apply Post.bind; apply Post.guardE; intro hsys
  exact Post.intro fun _ _ => by simpa using hsys

/-- hand-over: refused when the sender account is local; the current-owner branch only for the system contract -/
theorem handover_guard (env : Env) (c : Call) (ctx : Ctx) :
    Post (esdtNFTCreateRoleTransfer env c) ctx (fun out _ =>
      present env.nshards env.self c.caller = false ∧ present env.nshards env.self c.rcv = true ∧
      (out.outAccts ≠ [] → c.caller = esdtSCAddress)) := by
  unfold esdtNFTCreateRoleTransfer checkBasic; wp
  all_goals (refine ⟨‹present env.nshards env.self c.caller = false›, by simpa using ‹(!present env.nshards env.self c.rcv) = false›, ?_⟩)
  all_goals first
    | (intro _; assumption)
    | (intro h; exact absurd rfl h)

/-- owner / DNS checks -/
theorem owner_changeOwner (env : Env) (c : Call) (ctx : Ctx) :
    Post (changeOwnerAddress env c) ctx (fun _ ctx' =>
      present env.nshards env.self c.rcv = true → c.caller = (ctx.accts.get c.rcv).owner) := by
  unfold changeOwnerAddress
  xsteps
  split
  · rename_i h; apply Post.pure; intro hp; simp [hp] at h
  · xsteps
    apply Post.of_forall
    intro acct c1 he
    simp [getAcct] at he
    obtain ⟨rfl, rfl⟩ := he
    apply Post.bind
    apply Post.guardE
    intro hown
    apply Post.intro
    intro _ _ _
    simpa using hown

theorem owner_claim (env : Env) (c : Call) (ctx : Ctx) :
    Post (claimDeveloperRewards env c) ctx (fun _ ctx' =>
      present env.nshards env.self c.rcv = true → c.caller = (ctx.accts.get c.rcv).owner) := by
  unfold claimDeveloperRewards
  xsteps
  split
  · rename_i h; apply Post.pure; intro hp; simp [hp] at h
  · xsteps
    apply Post.of_forall
    intro acct c1 he
    simp [getAcct] at he
    obtain ⟨rfl, rfl⟩ := he
    apply Post.bind
    apply Post.guardE
    intro hown
    apply Post.intro
    intro _ _ _
    simpa using hown

theorem dns_setUserName (env : Env) (c : Call) (ctx : Ctx) :
    Post (setUserName env c) ctx (fun _ _ => c.caller ∈ env.dns) := by
  unfold setUserName
  apply Post.bind; apply Post.guardE; intro _
  apply Post.bind; apply Post.guardE; intro _
  apply Post.bind; apply Post.guardE; intro hdns
  exact Post.intro fun _ _ => by simpa using hdns

end Esdt
