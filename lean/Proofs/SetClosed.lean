/-
  Proofs/SetClosed.lean — invariants that are closed under `Accts.set`, the ONLY way the model changes a shard's account
  table.  Every successful call of every one of the 23 built-in functions preserves every such invariant, with no side
  condition at all (`Proofs/Writes.lean`: what is reached by writes is reached by `set`s).  The instance that matters is
  `Accts.Nodup` (one entry per address): together with `wf_step` (Canon) and `short_step` (Short) it makes three of the
  four parts of the world invariant `SInv` hold after ANY interleaving of ANY of the functions (`Proofs/Base.lean`); only
  `MdPos` needs the per-world step conditions (an adversarial destination-form payload can carry metadata with nonce 0).
-/
import Proofs.Short
import Proofs.Network
namespace Esdt

theorem setClosed_nodup : SetClosed Accts.Nodup := fun A a x h => Accts.set_nodup A h a x

variable {I : Accts → Prop}

theorem SetClosed.writeClosed (hI : SetClosed I) (F : Bytes → Slot → Prop) (V : Bytes → Prop) : WriteClosed F V I :=
  .of_store (fun A a _ _ _ _ h => hI A a _ h) (fun A a x _ h => hI A a x h)

theorem Pres.setAcct (hI : SetClosed I) (a : Bytes) (x : Acct) : Pres I (setAcct a x) := by
  intro c hs
  apply Post.of_forall
  intro _ c' h
  cases h
  exact hI _ _ _ hs

theorem Pres.writeKey (hI : SetClosed I) (a k v : Bytes) : Pres I (writeKey a k v) :=
  (hI.writeClosed (fun _ _ => True) (fun _ => True)).writeKey trivial trivial

/-- every successful call of every built-in function preserves every invariant closed under `Accts.set` -/
theorem setClosed_step (hI : SetClosed I) (f : FnId) (env : Env) (c : Call) (ctx ctx' : Ctx) (out : VMOutput)
    (hs : I ctx.accts) (h : exec env f c ctx = .ok (out, ctx')) : I ctx'.accts :=
  exec_pres (hI.writeClosed _ _) hs h

/-- one entry per address, after any successful call of any function -/
theorem nodup_step (f : FnId) (env : Env) (c : Call) (ctx ctx' : Ctx) (out : VMOutput)
    (hs : ctx.accts.Nodup) (h : exec env f c ctx = .ok (out, ctx')) : ctx'.accts.Nodup :=
  setClosed_step setClosed_nodup f env c ctx ctx' out hs h

end Esdt
