/-
  Proofs/Codec.lean — big-endian integers, the amount codec, varints and the protobuf
  encode/decode round trips (C14), size = length.
-/
import Model.Codec
namespace Esdt

/-! ### big-endian integers -/

theorem toNat_ofNat_lt (n : Nat) (h : n < 256) : (UInt8.ofNat n).toNat = n := by
  simp [UInt8.toNat_ofNat']; omega

theorem leBytes_zero : leBytes 0 = [] := by unfold leBytes; simp

theorem leBytes_pos (n : Nat) (h : n ≠ 0) : leBytes n = UInt8.ofNat (n % 256) :: leBytes (n / 256) := by
  rw [leBytes]; simp [h]

theorem foldr_leBytes (n : Nat) : (leBytes n).foldr (fun x acc => acc * 256 + x.toNat) 0 = n := by
  induction n using Nat.strongRecOn with
  | _ n ih =>
    by_cases h : n = 0
    · subst h; simp [leBytes_zero]
    · rw [leBytes_pos n h]
      simp only [List.foldr_cons]
      rw [ih (n / 256) (by omega), toNat_ofNat_lt _ (Nat.mod_lt _ (by decide))]
      omega

@[simp] theorem beNat_beBytes (n : Nat) : beNat (beBytes n) = n := by
  unfold beNat beBytes
  rw [List.foldl_reverse]
  exact foldr_leBytes n

theorem beBytes_zero : beBytes 0 = [] := by simp [beBytes, leBytes_zero]

theorem beBytes_ne_nil (n : Nat) (h : n ≠ 0) : beBytes n ≠ [] := by
  intro he
  have := beNat_beBytes n
  rw [he] at this
  simp [beNat] at this
  omega

theorem beBytes_eq_nil_iff (n : Nat) : beBytes n = [] ↔ n = 0 := by
  constructor
  · intro h; by_cases h0 : n = 0
    · exact h0
    · exact absurd h (beBytes_ne_nil n h0)
  · intro h; subst h; exact beBytes_zero

/-! ### BigIntCaster -/

theorem beNat_singleton (b : UInt8) : beNat [b] = b.toNat := by simp [beNat]

/-- C14: the amount codec is lossless for every value, including nil, zero and negatives. -/
theorem decBigInt_encBigInt (v : Option Int) : decBigInt (encBigInt v) = some v := by
  cases v with
  | none => rfl
  | some i =>
    by_cases h0 : i = 0
    · subst h0; rfl
    · have hn : i.natAbs ≠ 0 := by omega
      have hne := beBytes_ne_nil _ hn
      have hval := beNat_beBytes i.natAbs
      simp only [encBigInt, h0, if_false]
      cases hb : beBytes i.natAbs with
      | nil => exact absurd hb hne
      | cons b rest =>
        rw [hb] at hval
        cases rest with
        | nil =>
          rw [beNat_singleton] at hval
          have hb0 : b ≠ 0 := by
            intro h; subst h; simp at hval; omega
          by_cases hneg : i < 0
          · simp [decBigInt, hneg, hb0, hval]; omega
          · simp [decBigInt, hneg, hb0, hval]; omega
        | cons b2 rest2 =>
          by_cases hneg : i < 0
          · simp [decBigInt, hneg, hval]; omega
          · simp [decBigInt, hneg, hval]; omega

/-- C14: the reported size equals the encoded length. -/
theorem sizeBigInt_eq_length (v : Option Int) : sizeBigInt v = (encBigInt v).length := by
  cases v with
  | none => rfl
  | some i =>
    by_cases h0 : i = 0
    · subst h0; rfl
    · simp [sizeBigInt, encBigInt, h0]

theorem encBigInt_length_pos (v : Option Int) : 0 < (encBigInt v).length := by
  rw [← sizeBigInt_eq_length]
  cases v with
  | none => simp [sizeBigInt]
  | some i => simp [sizeBigInt]; split <;> omega

/-! ### varints -/

theorem decVarintAux_enc (n : Nat) : ∀ (shift acc : Nat) (rest : Bytes),
    shift < 64 → acc + n * 2 ^ shift < two64 →
    decVarintAux shift acc (encVarint n ++ rest) = some (acc + n * 2 ^ shift, rest) := by
  induction n using Nat.strongRecOn with
  | _ n ih =>
    intro shift acc rest hs hlt
    have hge : ¬ shift ≥ 64 := by omega
    unfold encVarint
    split
    · rename_i h
      simp only [List.cons_append, List.nil_append, decVarintAux, hge, if_false]
      rw [toNat_ofNat_lt n (by omega), Nat.mod_eq_of_lt h, Nat.mod_eq_of_lt hlt]
      simp [h]
    · rename_i h
      -- n·2^shift splits into the low 7 bits here and the rest 7 places further up
      have hsplit : n * 2 ^ shift = (n % 128) * 2 ^ shift + (n / 128) * 2 ^ (shift + 7) := by
        have := Nat.mod_add_div n 128
        rw [Nat.pow_add]
        grind
      have hs' : shift + 7 < 64 := by
        apply (Nat.pow_lt_pow_iff_right (a := 2) (by decide)).mp
        have : 128 * 2 ^ shift ≤ n * 2 ^ shift := Nat.mul_le_mul_right _ (by omega)
        have : two64 = 2 ^ 64 := by decide
        rw [Nat.pow_add]
        omega
      simp only [List.cons_append, decVarintAux, hge, if_false]
      rw [toNat_ofNat_lt _ (by omega), if_neg (by omega), Nat.add_mod_right, Nat.mod_mod,
        Nat.mod_eq_of_lt (by omega), ih (n / 128) (by omega) (shift + 7) _ rest hs' (by omega)]
      congr 2
      omega

theorem decVarint_encVarint (n : Nat) (rest : Bytes) (h : n < two64) :
    decVarint (encVarint n ++ rest) = some (n, rest) := by
  have := decVarintAux_enc n 0 0 rest (by decide) (by simpa using h)
  simpa [decVarint] using this

/-- a one-byte tag -/
theorem decVarint_tag (t : UInt8) (rest : Bytes) (h : t.toNat < 128) :
    decVarint (t :: rest) = some (t.toNat, rest) := by
  have h64 : t.toNat % two64 = t.toNat := Nat.mod_eq_of_lt (by unfold two64; omega)
  simp [decVarint, decVarintAux, h, Nat.mod_eq_of_lt h, h64]

theorem decLenDelim_enc (b rest : Bytes) (h : b.length < two63) :
    decLenDelim (encVarint b.length ++ (b ++ rest)) = some (b, rest) := by
  have h64 : b.length < two64 := by unfold two63 at h; unfold two64; omega
  unfold decLenDelim
  rw [decVarint_encVarint _ _ h64]
  have h1 : ¬ b.length ≥ two63 := by omega
  simp [h1]

theorem encVarint_length_pos (n : Nat) : 0 < (encVarint n).length := by
  unfold encVarint; split <;> simp

/-! ### the generic field loop -/

theorem decLoop_mono {σ : Type} (step : Bytes → σ → Option (Bytes × σ)) :
    ∀ (f : Nat) (bs : Bytes) (s r : σ), decLoop step f bs s = some r →
      ∀ f', f ≤ f' → decLoop step f' bs s = some r := by
  intro f
  induction f with
  | zero => intro bs s r h; simp [decLoop] at h
  | succ f ih =>
    intro bs s r h f' hf
    cases f' with
    | zero => omega
    | succ f' =>
      simp only [decLoop] at h ⊢
      split
      · rename_i hb; simpa [hb] using h
      · rename_i hb
        simp only [hb, if_false] at h
        cases hs : step bs s with
        | none => simp [hs] at h
        | some p =>
          obtain ⟨rest, s'⟩ := p
          simp only [hs] at h ⊢
          exact ih rest s' r h f' (by omega)

def cnt (b : Bytes) : Nat := if b = [] then 0 else 1

theorem cnt_le_length (b : Bytes) : cnt b ≤ b.length := by
  unfold cnt; split
  · omega
  · rename_i h; cases b with
    | nil => exact absurd rfl h
    | cons x xs => simp

/-- consuming one (possibly absent) field -/
theorem decLoop_field {σ : Type} (step : Bytes → σ → Option (Bytes × σ)) (F rest : Bytes) (s s' r : σ) (fuel : Nat)
    (hstep : F ≠ [] → step (F ++ rest) s = some (rest, s')) (habs : F = [] → s' = s)
    (h : decLoop step fuel rest s' = some r) :
    decLoop step (cnt F + fuel) (F ++ rest) s = some r := by
  by_cases hF : F = []
  · subst hF; simp [cnt]; rw [← habs rfl]; exact h
  · have hne : F ++ rest ≠ [] := by simp [hF]
    simp only [cnt, hF, if_false]
    rw [Nat.add_comm]
    simp only [decLoop, hne, if_false, hstep hF]
    exact h

theorem decTag_tag (t : UInt8) (rest : Bytes) (f : Nat) (h : t.toNat < 128) (hwt : t.toNat % 8 ≠ 4)
    (hf : fieldNum t.toNat = some f) : decTag (t :: rest) = some (f, t.toNat % 8, rest) := by
  simp [decTag, decVarint_tag t rest h, hwt, hf]

theorem decTag_len (tag : UInt8) (f : Nat) (b rest : Bytes)
    (h : tag.toNat < 128) (hwt : tag.toNat % 8 = 2) (hf : fieldNum tag.toNat = some f) :
    decTag (encLenDelim tag b ++ rest) = some (f, 2, encVarint b.length ++ (b ++ rest)) := by
  have := decTag_tag tag (encVarint b.length ++ (b ++ rest)) f h (by omega) hf
  rw [hwt] at this
  simpa [encLenDelim] using this

theorem encLenDelim_ne_nil (tag : UInt8) (b : Bytes) : encLenDelim tag b ≠ [] := by simp [encLenDelim]

theorem encLenDelim_length (tag : UInt8) (b : Bytes) : b.length + 2 ≤ (encLenDelim tag b).length := by
  have := encVarint_length_pos b.length
  simp [encLenDelim]; omega

theorem encVarintField_eq_nil (tag : UInt8) (v : Nat) : encVarintField tag v = [] ↔ v = 0 := by
  unfold encVarintField; split <;> simp_all

theorem encBytesField_eq_nil (tag : UInt8) (b : Bytes) : encBytesField tag b = [] ↔ b = [] := by
  unfold encBytesField; split <;> simp_all [encLenDelim]

/-! ### the three kinds of field of the stable marshaller, for any step function -/

/-- an optional length-delimited field (absent iff empty) -/
theorem decLoop_bytesField {σ : Type} (step : Bytes → σ → Option (Bytes × σ)) (tag : UInt8) (b rest : Bytes)
    (s s' r : σ) (fuel : Nat) (hstep : step (encLenDelim tag b ++ rest) s = some (rest, s')) (habs : b = [] → s' = s)
    (h : decLoop step fuel rest s' = some r) :
    decLoop step (cnt (encBytesField tag b) + fuel) (encBytesField tag b ++ rest) s = some r := by
  refine decLoop_field step _ rest s s' r fuel (fun hne => ?_) (fun he => habs ((encBytesField_eq_nil _ _).mp he)) h
  have hb : b ≠ [] := fun he => hne ((encBytesField_eq_nil _ _).mpr he)
  rwa [encBytesField, if_neg hb]

/-- an optional varint field (absent iff zero) -/
theorem decLoop_varintField {σ : Type} (step : Bytes → σ → Option (Bytes × σ)) (tag : UInt8) (v : Nat) (rest : Bytes)
    (s s' r : σ) (fuel : Nat) (hstep : step (tag :: encVarint v ++ rest) s = some (rest, s')) (habs : v = 0 → s' = s)
    (h : decLoop step fuel rest s' = some r) :
    decLoop step (cnt (encVarintField tag v) + fuel) (encVarintField tag v ++ rest) s = some r := by
  refine decLoop_field step _ rest s s' r fuel (fun hne => ?_) (fun he => habs ((encVarintField_eq_nil _ _).mp he)) h
  have hb : v ≠ 0 := fun he => hne ((encVarintField_eq_nil _ _).mpr he)
  rwa [encVarintField, if_neg hb]

/-- a repeated length-delimited field; `app s xs` is `s` with `xs` appended to the field -/
theorem decLoop_repeated {σ : Type} (step : Bytes → σ → Option (Bytes × σ)) (tag : UInt8) (app : σ → List Bytes → σ)
    (hnil : ∀ s, app s [] = s) (hcons : ∀ s x xs, app s (x :: xs) = app (app s [x]) xs) (xs : List Bytes)
    (hstep : ∀ x ∈ xs, ∀ rest s, step (encLenDelim tag x ++ rest) s = some (rest, app s [x])) :
    ∀ (fuel : Nat) (s r : σ) (rest : Bytes), decLoop step fuel rest (app s xs) = some r →
      decLoop step (xs.length + fuel) ((xs.flatMap fun x => encLenDelim tag x) ++ rest) s = some r := by
  induction xs with
  | nil => intro fuel s r rest hh; simpa [hnil] using hh
  | cons x xs ih =>
    intro fuel s r rest hh
    have := decLoop_field step (encLenDelim tag x) ((xs.flatMap fun x => encLenDelim tag x) ++ rest) s (app s [x]) r
      (xs.length + fuel) (fun _ => hstep x (by simp) _ s) (fun he => absurd he (encLenDelim_ne_nil _ _))
      (ih (fun y hy => hstep y (by simp [hy])) fuel _ r rest (hcons s x xs ▸ hh))
    simpa [cnt, encLenDelim_ne_nil, Nat.add_assoc, Nat.add_comm 1] using this

theorem flatMap_encLenDelim_length (tag : UInt8) (xs : List Bytes) :
    xs.length ≤ (xs.flatMap fun x => encLenDelim tag x).length := by
  induction xs with
  | nil => simp
  | cons x xs ih =>
    have := encLenDelim_length tag x
    rw [List.flatMap_cons, List.length_append, List.length_cons]; omega

/-! ### roles -/

def RolesOK (rs : List Bytes) : Prop := ∀ r ∈ rs, r.length < two63

theorem decRolesStep_enc (r rest : Bytes) (acc : List Bytes) (h : r.length < two63) :
    decRolesStep (encLenDelim 0x0a r ++ rest) acc = some (rest, acc ++ [r]) := by
  simp [decRolesStep, decTag_len 0x0a 1 r rest (by decide) (by decide) (by decide), decLenDelim_enc r rest h]

theorem encRoles_length (rs : List Bytes) : rs.length ≤ (encRoles rs).length := flatMap_encLenDelim_length 0x0a rs

/-- C14: role lists are lossless. -/
theorem decRoles_encRoles (rs : List Bytes) (h : RolesOK rs) : decRoles (encRoles rs) = some rs := by
  have h1 := decLoop_repeated decRolesStep 0x0a (· ++ ·) (by simp) (by simp) rs
    (fun x hx rest acc => decRolesStep_enc x rest acc (h x hx)) 1 [] rs [] (by simp [decLoop])
  rw [List.append_nil] at h1
  exact decLoop_mono _ _ _ _ _ h1 _ (by have := encRoles_length rs; omega)

/-! ### metadata -/

structure MetaOK (m : MetaData) : Prop where
  nonce : m.nonce < two64
  royalties : m.royalties < two32
  name : m.name.length < two63
  creator : m.creator.length < two63
  hash : m.hash.length < two63
  attributes : m.attributes.length < two63
  uris : ∀ u ∈ m.uris, u.length < two63

theorem two32_lt_two64 : two32 < two64 := by decide

theorem decTag_varint (tag : UInt8) (f : Nat) (bs : Bytes)
    (h : tag.toNat < 128) (hwt : tag.toNat % 8 = 0) (hf : fieldNum tag.toNat = some f) :
    decTag (tag :: bs) = some (f, 0, bs) := by
  have := decTag_tag tag bs f h (by omega) hf
  rwa [hwt] at this

theorem decMetaStep_nonce (v : Nat) (rest : Bytes) (m : MetaData) (hv : v < two64) :
    decMetaStep ((0x08 : UInt8) :: encVarint v ++ rest) m = some (rest, { m with nonce := v }) := by
  simp [decMetaStep, decTag_varint 0x08 1 _ (by decide) (by decide) (by decide), decVarint_encVarint v rest hv]

theorem decMetaStep_royalties (v : Nat) (rest : Bytes) (m : MetaData) (hv : v < two32) :
    decMetaStep ((0x20 : UInt8) :: encVarint v ++ rest) m = some (rest, { m with royalties := v }) := by
  simp [decMetaStep, decTag_varint 0x20 4 _ (by decide) (by decide) (by decide),
    decVarint_encVarint v rest (Nat.lt_trans hv two32_lt_two64), Nat.mod_eq_of_lt hv]

theorem decMetaStep_name (b rest : Bytes) (m : MetaData) (hb : b.length < two63) :
    decMetaStep (encLenDelim 0x12 b ++ rest) m = some (rest, { m with name := b }) := by
  simp [decMetaStep, decTag_len 0x12 2 b rest (by decide) (by decide) (by decide), decLenDelim_enc b rest hb]

theorem decMetaStep_creator (b rest : Bytes) (m : MetaData) (hb : b.length < two63) :
    decMetaStep (encLenDelim 0x1a b ++ rest) m = some (rest, { m with creator := b }) := by
  simp [decMetaStep, decTag_len 0x1a 3 b rest (by decide) (by decide) (by decide), decLenDelim_enc b rest hb]

theorem decMetaStep_hash (b rest : Bytes) (m : MetaData) (hb : b.length < two63) :
    decMetaStep (encLenDelim 0x2a b ++ rest) m = some (rest, { m with hash := b }) := by
  simp [decMetaStep, decTag_len 0x2a 5 b rest (by decide) (by decide) (by decide), decLenDelim_enc b rest hb]

theorem decMetaStep_uri (b rest : Bytes) (m : MetaData) (hb : b.length < two63) :
    decMetaStep (encLenDelim 0x32 b ++ rest) m = some (rest, { m with uris := m.uris ++ [b] }) := by
  simp [decMetaStep, decTag_len 0x32 6 b rest (by decide) (by decide) (by decide), decLenDelim_enc b rest hb]

theorem decMetaStep_attributes (b rest : Bytes) (m : MetaData) (hb : b.length < two63) :
    decMetaStep (encLenDelim 0x3a b ++ rest) m = some (rest, { m with attributes := b }) := by
  simp [decMetaStep, decTag_len 0x3a 7 b rest (by decide) (by decide) (by decide), decLenDelim_enc b rest hb]

/-- decoding an encoded metadata record on top of the empty record, followed by `rest` -/
theorem decLoop_meta (m : MetaData) (hm : MetaOK m) (fuel : Nat) (r : MetaData) (rest : Bytes)
    (h : decLoop decMetaStep fuel rest m = some r) :
    ∃ n, n ≤ (encMeta m).length ∧ decLoop decMetaStep (n + fuel) (encMeta m ++ rest) {} = some r := by
  -- fields from the last to the first; an absent field leaves the default, which `he ▸ rfl` reads off by eta
  have e7 := decLoop_bytesField decMetaStep 0x3a m.attributes rest { m with attributes := [] } m r fuel
    (decMetaStep_attributes _ _ _ hm.attributes) (fun he => he ▸ rfl) h
  have e6 := decLoop_repeated decMetaStep 0x32 (fun m us => { m with uris := m.uris ++ us }) (by simp) (by simp) m.uris
    (fun x hx rest s => decMetaStep_uri x rest s (hm.uris x hx)) _ { m with attributes := [], uris := [] } r _
    (by simpa using e7)
  have e5 := decLoop_bytesField decMetaStep 0x2a m.hash _ { m with attributes := [], uris := [], hash := [] } _ r _
    (decMetaStep_hash _ _ _ hm.hash) (fun he => he ▸ rfl) e6
  have e4 := decLoop_varintField decMetaStep 0x20 m.royalties _
    { m with attributes := [], uris := [], hash := [], royalties := 0 } _ r _
    (decMetaStep_royalties _ _ _ hm.royalties) (fun he => he ▸ rfl) e5
  have e3 := decLoop_bytesField decMetaStep 0x1a m.creator _
    { m with attributes := [], uris := [], hash := [], royalties := 0, creator := [] } _ r _
    (decMetaStep_creator _ _ _ hm.creator) (fun he => he ▸ rfl) e4
  have e2 := decLoop_bytesField decMetaStep 0x12 m.name _
    { m with attributes := [], uris := [], hash := [], royalties := 0, creator := [], name := [] } _ r _
    (decMetaStep_name _ _ _ hm.name) (fun he => he ▸ rfl) e3
  have e1 := decLoop_varintField decMetaStep 0x08 m.nonce _ {} _ r _
    (decMetaStep_nonce _ _ _ hm.nonce) (fun he => he ▸ rfl) e2
  simp only [← Nat.add_assoc] at e1
  refine ⟨_, ?_, by simpa only [encMeta, List.append_assoc] using e1⟩
  have c1 := cnt_le_length (encVarintField 0x08 m.nonce)
  have c2 := cnt_le_length (encBytesField 0x12 m.name)
  have c3 := cnt_le_length (encBytesField 0x1a m.creator)
  have c4 := cnt_le_length (encVarintField 0x20 m.royalties)
  have c5 := cnt_le_length (encBytesField 0x2a m.hash)
  have c6 := flatMap_encLenDelim_length 0x32 m.uris
  have c7 := cnt_le_length (encBytesField 0x3a m.attributes)
  simp only [encMeta, List.length_append]
  omega

/-- C14: NFT metadata is lossless. -/
theorem decMeta_encMeta (m : MetaData) (hm : MetaOK m) : decMeta (encMeta m) = some m := by
  obtain ⟨n, hn, h⟩ := decLoop_meta m hm 1 m [] (by simp [decLoop])
  simp only [List.append_nil] at h
  exact decLoop_mono _ _ _ _ _ h _ (by omega)

theorem decMetaInto_encMeta (m : MetaData) (hm : MetaOK m) : decMetaInto (encMeta m) {} = some m :=
  decMeta_encMeta m hm

/-! ### token -/

structure TokenOK (t : Token) : Prop where
  type : t.type < two32
  value : (encBigInt t.value).length < two63
  properties : t.properties.length < two63
  reserved : t.reserved.length < two63
  md : ∀ m, t.md = some m → MetaOK m ∧ (encMeta m).length < two63

theorem decTokenStep_type (v : Nat) (rest : Bytes) (t : Token) (hv : v < two32) :
    decTokenStep ((0x08 : UInt8) :: encVarint v ++ rest) t = some (rest, { t with type := v }) := by
  simp [decTokenStep, decTag_varint 0x08 1 _ (by decide) (by decide) (by decide),
    decVarint_encVarint v rest (Nat.lt_trans hv two32_lt_two64), Nat.mod_eq_of_lt hv]

theorem decTokenStep_value (v : Option Int) (rest : Bytes) (t : Token) (hb : (encBigInt v).length < two63) :
    decTokenStep (encLenDelim 0x12 (encBigInt v) ++ rest) t = some (rest, { t with value := v }) := by
  simp [decTokenStep, decTag_len 0x12 2 _ rest (by decide) (by decide) (by decide),
    decLenDelim_enc _ rest hb, decBigInt_encBigInt]

theorem decTokenStep_properties (b rest : Bytes) (t : Token) (hb : b.length < two63) :
    decTokenStep (encLenDelim 0x1a b ++ rest) t = some (rest, { t with properties := b }) := by
  simp [decTokenStep, decTag_len 0x1a 3 b rest (by decide) (by decide) (by decide), decLenDelim_enc b rest hb]

theorem decTokenStep_reserved (b rest : Bytes) (t : Token) (hb : b.length < two63) :
    decTokenStep (encLenDelim 0x2a b ++ rest) t = some (rest, { t with reserved := b }) := by
  simp [decTokenStep, decTag_len 0x2a 5 b rest (by decide) (by decide) (by decide), decLenDelim_enc b rest hb]

theorem decTokenStep_md (m : MetaData) (rest : Bytes) (t : Token) (hm : MetaOK m)
    (hl : (encMeta m).length < two63) (ht : t.md = none) :
    decTokenStep (encLenDelim 0x22 (encMeta m) ++ rest) t = some (rest, { t with md := some m }) := by
  simp [decTokenStep, decTag_len 0x22 4 _ rest (by decide) (by decide) (by decide),
    decLenDelim_enc _ rest hl, ht, decMetaInto_encMeta m hm]

def encMdField (o : Option MetaData) : Bytes :=
  match o with
  | none => []
  | some m => encLenDelim 0x22 (encMeta m)

theorem encToken_eq (t : Token) : encToken t =
    encVarintField 0x08 t.type ++ (encLenDelim 0x12 (encBigInt t.value) ++ (encBytesField 0x1a t.properties ++
      (encMdField t.md ++ encBytesField 0x2a t.reserved))) := by
  unfold encToken encMdField
  cases t.md <;> simp

theorem decLoop_token (t : Token) (ht : TokenOK t) (fuel : Nat) (r : Token) (rest : Bytes)
    (h : decLoop decTokenStep fuel rest t = some r) :
    ∃ n, n ≤ (encToken t).length ∧ decLoop decTokenStep (n + fuel) (encToken t ++ rest) {} = some r := by
  have e5 := decLoop_bytesField decTokenStep 0x2a t.reserved rest { t with reserved := [] } t r fuel
    (decTokenStep_reserved _ _ _ ht.reserved) (fun he => he ▸ rfl) h
  have e4 := decLoop_field decTokenStep (encMdField t.md) _
    { t with reserved := [], md := none } { t with reserved := [] } r _
    (fun _ => by
      cases hmd : t.md with
      | none => simp_all [encMdField]
      | some m =>
        obtain ⟨hm, hl⟩ := ht.md m hmd
        exact decTokenStep_md m _ { t with reserved := [], md := none } hm hl rfl)
    (fun he => by
      cases hmd : t.md with
      | none => rfl
      | some m => simp [encMdField, hmd, encLenDelim] at he)
    e5
  have e3 := decLoop_bytesField decTokenStep 0x1a t.properties _
    { t with reserved := [], md := none, properties := [] } _ r _
    (decTokenStep_properties _ _ _ ht.properties) (fun he => he ▸ rfl) e4
  have e2 := decLoop_field decTokenStep (encLenDelim 0x12 (encBigInt t.value)) _
    { t with reserved := [], md := none, properties := [], value := none } _ r _
    (fun _ => decTokenStep_value _ _ _ ht.value) (fun he => absurd he (encLenDelim_ne_nil _ _)) e3
  have e1 := decLoop_varintField decTokenStep 0x08 t.type _ {} _ r _
    (decTokenStep_type _ _ _ ht.type) (fun he => he ▸ rfl) e2
  simp only [← Nat.add_assoc] at e1
  refine ⟨_, ?_, by simpa only [encToken_eq, List.append_assoc] using e1⟩
  have c1 := cnt_le_length (encVarintField 0x08 t.type)
  have c2 := cnt_le_length (encLenDelim 0x12 (encBigInt t.value))
  have c3 := cnt_le_length (encBytesField 0x1a t.properties)
  have c4 := cnt_le_length (encMdField t.md)
  have c5 := cnt_le_length (encBytesField 0x2a t.reserved)
  rw [encToken_eq]
  simp only [List.length_append]
  omega

/-- C14: token data is lossless — every value, including nil / zero / negative amounts,
    absent and empty fields. -/
theorem decToken_encToken (t : Token) (ht : TokenOK t) : decToken (encToken t) = some t := by
  obtain ⟨n, hn, h⟩ := decLoop_token t ht 1 t [] (by simp [decLoop])
  simp only [List.append_nil] at h
  exact decLoop_mono _ _ _ _ _ h _ (by omega)

/-- the encoding of a token is never empty (`Value` is always emitted) -/
theorem encToken_ne_nil (t : Token) : encToken t ≠ [] := by
  rw [encToken_eq]
  intro h
  have := congrArg List.length h
  have h2 := encLenDelim_length 0x12 (encBigInt t.value)
  simp only [List.length_append, List.length_nil] at this
  omega

end Esdt
