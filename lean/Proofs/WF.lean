/-
  Proofs/WF.lean — the representation invariant of token entries (C15): `Canon` (every token-keyed slot is empty or
  decodes to a well-formed token), its weakening `CanonM` (a freshly written slot known only as the encoding of one), and
  what the shapes of write of the protocol (`OneWrite`, `NftWrite`, `Saved`) and some functions do to them.  That every
  function keeps `Canon` is in Proofs/Base.lean.
-/
import Proofs.Metadata
import Proofs.Writes
import Proofs.Sizes
namespace Esdt

/-- a well-formed token entry under key `k`: a strictly positive balance, or zero only to carry a flag; metadata only
    with a nonce that is the key's suffix -/
structure TokWF (k : Bytes) (t : Token) : Prop where
  value : ∃ v, t.value = some v ∧ (0 < v ∨ (v = 0 ∧ allZero t.properties = false))
  key : ∀ m, t.md = some m → ∃ tok, k = esdtKeyPrefix ++ tok ++ beBytes m.nonce

/-- decoded form: the slot is empty or decodes to a well-formed token (what C15 states) -/
def EntryD (k raw : Bytes) : Prop := raw = [] ∨ ∃ t, decToken raw = some t ∧ TokWF k t

/-- encoded form: the slot holds the canonical encoding of a well-formed token with in-range numeric fields (what a write
    of the protocol produces; it is the decoded form as soon as the entry is within Go's size limits) -/
def EntryE (k raw : Bytes) : Prop := ∃ t, raw = encToken t ∧ TokWF k t ∧ NumOK t

/-- every token-keyed slot of every account (the system account's token-keyed slots hold pause flags) -/
def Canon (A : Accts) : Prop := ∀ a k, TokKey k → a ≠ systemAccountAddress → EntryD k (A.read a k)

/-- the same with freshly written slots allowed in encoded form -/
def CanonM (A : Accts) : Prop := ∀ a k, TokKey k → a ≠ systemAccountAddress → EntryD k (A.read a k) ∨ EntryE k (A.read a k)

/-- every stored value is shorter than 2^63 bytes (a physical bound: Go slices cannot be longer) -/
def Short (A : Accts) : Prop := ∀ a k, (A.read a k).length < two63

theorem Canon.toM {A : Accts} (h : Canon A) : CanonM A := fun a k hk ha => Or.inl (h a k hk ha)

/-- within the size limits the encoded form IS the decoded form -/
theorem CanonM.toCanon {A : Accts} (h : CanonM A) (hs : Short A) : Canon A := by
  intro a k hk ha
  rcases h a k hk ha with hd | ⟨t, he, hwf, hn⟩
  · exact hd
  · have hl := hs a k
    rw [he] at hl
    exact Or.inr ⟨t, by rw [he]; exact roundtrip_of_length t hn hl, hwf⟩

theorem canon_write {A : Accts} (a k v : Bytes) (h : CanonM A)
    (hv : TokKey k → a ≠ systemAccountAddress → EntryD k v ∨ EntryE k v) : CanonM (A.write a k v) := by
  intro a2 k2 hk ha
  rw [Accts.read_write]
  split
  · rename_i he; obtain ⟨rfl, rfl⟩ := he; exact hv hk ha
  · exact h a2 k2 hk ha

theorem canon_of_read_eq {A A' : Accts} (h : Canon A)
    (he : ∀ a k, TokKey k → a ≠ systemAccountAddress → A'.read a k = A.read a k) : CanonM A' := by
  intro a k hk ha; rw [he a k hk ha]; exact Or.inl (h a k hk ha)

theorem entryWF_storedForm (k : Bytes) (t : Token) (v : Int) (hv : t.value = some v) (h0 : 0 ≤ v)
    (hk : ∀ m, t.md = some m → ∃ tok, k = esdtKeyPrefix ++ tok ++ beBytes m.nonce) (hn : NumOK t) :
    EntryD k (storedForm t) ∨ EntryE k (storedForm t) := by
  unfold storedForm
  split
  · exact Or.inl (Or.inl rfl)
  · rename_i hc
    refine Or.inr ⟨t, rfl, ⟨⟨v, hv, ?_⟩, hk⟩, hn⟩
    by_cases hz : v = 0
    · subst hz
      refine Or.inr ⟨rfl, ?_⟩
      cases hp : allZero t.properties
      · rfl
      · exact absurd ⟨hv, hp⟩ hc
    · exact Or.inl (by omega)

theorem entryWF_nftStoredForm (k : Bytes) (t : Token)
    (hk : ∀ m, t.md = some m → ∃ tok, k = esdtKeyPrefix ++ tok ++ beBytes m.nonce) (hn : NumOK t) :
    EntryD k (nftStoredForm t) ∨ EntryE k (nftStoredForm t) := by
  unfold nftStoredForm
  split
  · rename_i v hv
    split
    · exact Or.inl (Or.inl rfl)
    · exact Or.inr ⟨t, rfl, ⟨⟨v, hv, Or.inl (by omega)⟩, hk⟩, hn⟩
  · exact Or.inl (Or.inl rfl)

/-- the key built by `saveESDTNFTToken` matches the metadata's nonce by construction -/
theorem nftKey_matches (tok : Bytes) (t : Token) :
    ∀ m, t.md = some m → ∃ tok', nftKey (esdtKeyPrefix ++ tok) (mdNonce t) = esdtKeyPrefix ++ tok' ++ beBytes m.nonce := by
  intro m hm
  exact ⟨tok, by simp [nftKey, mdNonce, hm]⟩

theorem numOK_fungibleDefault : NumOK fungibleDefault := ⟨by decide, fun m hm => by cases hm⟩

theorem tokenOf_num {raw : Bytes} {t : Token} (ht : tokenOf raw = some t) : NumOK t := by
  unfold tokenOf at ht
  split at ht
  · cases ht; exact numOK_fungibleDefault
  · exact decToken_num raw t ht

theorem NumOK.withValue {t : Token} (h : NumOK t) (v : Option Int) : NumOK { t with value := v } := ⟨h.type, h.md⟩
theorem NumOK.withProps {t : Token} (h : NumOK t) (p : Bytes) : NumOK { t with properties := p } := ⟨h.type, h.md⟩

/-- what a read through `getESDTDataFromKey` yields on a well-formed state -/
theorem Canon.read {A : Accts} (hC : Canon A) {a k : Bytes} (hk : TokKey k)
    (ha : a ≠ systemAccountAddress) {t : Token} (ht : tokenOf (A.read a k) = some t) :
    (∃ v, t.value = some v ∧ 0 ≤ v) ∧ ∀ m, t.md = some m → ∃ tok, k = esdtKeyPrefix ++ tok ++ beBytes m.nonce := by
  unfold tokenOf at ht
  split at ht
  · cases ht
    exact ⟨⟨0, rfl, Int.le_refl _⟩, fun m hm => by cases hm⟩
  · rename_i hne
    rcases hC a k hk ha with h | ⟨t0, h, hwf⟩
    · exact absurd h hne
    · rw [h] at ht; cases ht
      obtain ⟨v, hv, hpos⟩ := hwf.value
      exact ⟨⟨v, hv, by omega⟩, hwf.key⟩

theorem tokKey_esdt (tok : Bytes) : TokKey (esdtKeyPrefix ++ tok) := ⟨tok, rfl⟩
theorem tokKey_nft (tok : Bytes) (n : Nat) : TokKey (nftKey (esdtKeyPrefix ++ tok) n) :=
  ⟨tok ++ beBytes n, by simp [nftKey, List.append_assoc]⟩

/-! ### preservation by the shapes of write the functions perform -/

theorem OneWrite.canon {A A' : Accts} {a k : Bytes} {t : Token} {v d : Int} (h : OneWrite A A' a k t v d)
    (hC : Canon A) (hk : TokKey k) : CanonM A' := by
  rw [h.written]
  apply canon_write _ _ _ hC.toM
  intro _ ha
  exact entryWF_storedForm k _ (v + d) rfl h.nonneg (hC.read hk ha h.old).2 ((tokenOf_num h.old).withValue _)

theorem NftWrite.canon {A A' : Accts} {a tok : Bytes} {n : Nat} {t : Token} {v v' : Int}
    (h : NftWrite A A' a (esdtKeyPrefix ++ tok) n t v v') (hC : CanonM A) : CanonM A' := by
  rw [h.written]
  apply canon_write _ _ _ hC
  intro _ _
  exact entryWF_nftStoredForm _ _ (nftKey_matches tok t) ((decToken_num _ _ h.old).withValue _)

/-- `saveESDTNFTToken` of a token with in-range numeric fields writes a well-formed entry: the key is built from the
    token's own nonce, and a non-positive value deletes -/
theorem Saved.canonM {A A' : Accts} {a tok : Bytes} {t : Token} {rae : Bool}
    (s : Saved A A' a (esdtKeyPrefix ++ tok) t rae) (hn : NumOK t) (h : CanonM A) : CanonM A' :=
  s.written ▸ canon_write _ _ _ h fun _ _ => entryWF_nftStoredForm _ _ (nftKey_matches tok t) hn

end Esdt

namespace Esdt

/-! ### functions whose effect is used in this form by the history worlds -/

section
variable (env : Env) (c : Call) (ctx ctx' : Ctx) (out : VMOutput)

theorem canon_wipe (hC : Canon ctx.accts)
    (h : esdtFreezeWipe .wipe env c ctx = .ok (out, ctx')) : CanonM ctx'.accts := by
  obtain ⟨tok, t, _, _, _, _, hw⟩ := (wipe_effect env c ctx).elim h
  rw [hw]; exact canon_write _ _ _ hC.toM (fun _ _ => Or.inl (Or.inl rfl))

theorem canon_toggleFreeze (kind : FreezeKind) (hk : kind ≠ .wipe) (hC : Canon ctx.accts)
    (h : esdtFreezeWipe kind env c ctx = .ok (out, ctx')) : CanonM ctx'.accts := by
  obtain ⟨tok, t, _, _, ht, _, hw⟩ := (toggleFreeze_effect kind hk env c ctx).elim h
  rw [hw]
  apply canon_write _ _ _ hC.toM
  intro hkk ha
  obtain ⟨⟨v, hv, h0⟩, hkey⟩ := hC.read hkk ha ht
  exact entryWF_storedForm _ _ v hv h0 hkey ((tokenOf_num ht).withProps _)

theorem canon_nftCreate (hC : Canon ctx.accts)
    (h : esdtNFTCreate env c ctx = .ok (out, ctx')) : CanonM ctx'.accts := by
  obtain ⟨tok, qb, name, roy, hash, attrs, n, A1, _, _, _, _, _, _, hn, _, _, _, hA1, hw⟩ := (nftCreate_effect env c ctx).elim h
  rw [hw, hA1]
  apply canon_write
  · apply canon_write _ _ _ hC.toM
    intro _ _
    apply entryWF_nftStoredForm
    · intro m hm
      simp only [createdToken] at hm
      cases hm
      exact ⟨tok, by simp [nftKey]⟩
    · refine ⟨by simp [createdToken, two32], ?_⟩
      intro m hm
      simp only [createdToken] at hm
      cases hm
      exact ⟨by rw [hn]; exact u64_lt _, Nat.mod_lt _ (by decide)⟩
  · intro hk; exact absurd hk (not_tokKey_nonce tok)

end
end Esdt

namespace Esdt
section
variable (env : Env) (c : Call) (ctx ctx' : Ctx) (out : VMOutput)

/-- ESDTNFTTransfer on any side: every written entry is `saveESDTNFTToken`'s stored form under the key built from its own
    metadata nonce — well-formed by construction -/
theorem canon_nftTransfer (hC : Canon ctx.accts) (_hpres : c.caller = c.rcv → present env.nshards env.self c.caller = true)
    (h : esdtNFTTransfer env c ctx = .ok (out, ctx')) : CanonM ctx'.accts := by
  by_cases hself : c.caller = c.rcv
  · obtain ⟨_, _, _, dst, t, _, A1, _, _, _, _, _, _, _, _, _, _, held, _, saved, _, hcross, hsame⟩ :=
      (nftTransferSender_spec env c ctx).elim ((nftTransfer_sender_path env c ctx hself).elim h)
    have hn := decToken_num _ _ held.old
    have h1 : CanonM A1 := saved.canonM (hn.withValue _) hC.toM
    by_cases hx : env.self = shardOf env.nshards dst
    · obtain ⟨_, _, _, cr⟩ := hsame hx
      exact cr.saved.canonM (hn.withValue _) h1
    · exact (hcross hx).2.1 ▸ h1
  · obtain ⟨tok, _, t, cur, tv, cv, _, _, hdec, _, _, _, _, _, _, _, _, hw⟩ := (nftTransfer_dest_effect env c ctx hself).elim h
    rw [hw]
    apply canon_write _ _ _ hC.toM
    intro _ _
    exact entryWF_nftStoredForm _ _ (nftKey_matches tok t) ((decToken_num _ _ hdec).withValue _)

/-- functions that write no token-keyed slot outside the system account -/
theorem canon_of_no_token_write {f : FnId} (hf : f.writesTokens = false ∨ f = .esdtPause ∨ f = .esdtUnPause)
    (hC : Canon ctx.accts) (h : exec env f c ctx = .ok (out, ctx')) : CanonM ctx'.accts :=
  canon_of_read_eq hC (fun a k hk ha => exec_read_eq h (fun hw => by
    rcases hf with hf | rfl | rfl
    · rw [wrKey_tok hw.2 hk] at hf; cases hf
    · exact ha hw.1
    · exact ha hw.1))

end
end Esdt

namespace Esdt

/-! ### one sender-side item of MultiESDTNFTTransfer: it writes through `saveESDTNFTToken` -/

theorem canon_transferOne (env : Env) (c : Call) (l : Bool) (dst tok : Bytes) (n q : Nat) (v : Bool) (ctx : Ctx)
    (hC : CanonM ctx.accts) :
    Post (transferOne env c l dst tok n q v) ctx (fun _ c' => CanonM c'.accts) := by
  apply (transferOne_spec env c l dst tok n q v ctx).mono
  rintro _ _ ⟨t, _, A1, _, _, held, _, saved, hf, ht⟩
  have hn := decToken_num _ _ held.old
  have h1 : CanonM A1 := saved.canonM (hn.withValue _) hC
  cases l
  · exact (hf rfl).2 ▸ h1
  · obtain ⟨_, _, _, cr⟩ := ht rfl
    exact cr.saved.canonM (hn.withValue _) h1

end Esdt
