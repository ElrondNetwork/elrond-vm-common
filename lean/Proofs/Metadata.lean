/-
  Proofs/Metadata.lean — specifications of the metadata-changing functions, of one sender-side item of a multi transfer
  and of the sender side of ESDTNFTTransfer, with the exact effects that follow from them.
-/
import Proofs.Nonce
namespace Esdt

/-- the caller's entry under token‖nonce rewritten with new metadata, everything else of the entry kept -/
structure MetaWrite (A A' : Accts) (a tk : Bytes) (n : Nat) (t : Token) (m m' : MetaData) : Prop where
  present : A.read a (nftKey tk n) ≠ []
  old : decToken (A.read a (nftKey tk n)) = some t
  hasMeta : t.md = some m
  sameNonce : m'.nonce = m.nonce
  written : A' = A.write a (nftKey tk m.nonce) (nftStoredForm { t with md := some m' })

theorem Held.metaWrite {A A' : Accts} {a tk : Bytes} {n : Nat} {t : Token} {m m' : MetaData} {rae : Bool}
    (h : Held A a tk n t) (hm : t.md = some m) (hn : m'.nonce = m.nonce)
    (s : Saved A A' a tk { t with md := some m' } rae) : MetaWrite A A' a tk n t m m' :=
  ⟨h.present, h.old, hm, hn, by rw [s.written]; simp only [mdNonce, hn]⟩

/-- ESDTNFTAddURI, everything a successful call establishes: the caller holds the add-URI role, owns the entry, and the
    entry is saved with the given URIs appended to its list; no other field of the entry changes -/
theorem addURI_spec (env : Env) (c : Call) (ctx : Ctx) :
    Post (esdtNFTAddURI env c) ctx (fun _ ctx' => ∃ tok nb t m, c.args[0]? = some tok ∧ c.args[1]? = some nb ∧
      u64 (beNat nb) ≠ 0 ∧ HasRole ctx.accts c.caller tok roleNFTAddURI ∧
      Held ctx.accts c.caller (esdtKeyPrefix ++ tok) (u64 (beNat nb)) t ∧ t.md = some m ∧
      Saved ctx.accts ctx'.accts c.caller (esdtKeyPrefix ++ tok)
        { t with md := some { m with uris := m.uris ++ c.args.drop 2 } } c.rae) := by
  unfold esdtNFTAddURI checkCreateBurnAdd checkBasic
  xsteps
  apply Post.mono (spec_checkAllowed _ _ _ rfl)
  rintro _ c1 ⟨h1, hrole⟩
  xsteps
  apply Post.mono (getNFTOnSender_held _ _ _ h1)
  rintro t c2 ⟨h2, held⟩
  xsteps
  apply Post.mono (saveNFT_saved _ _ _ _ h2)
  rintro _ c3 ⟨_, saved⟩
  exact Post.pure ⟨_, _, t, _, ‹c.args[0]? = some _›, ‹c.args[1]? = some _›,
    of_decide_eq_false ‹decide (u64 (beNat _) = 0) = false›, hrole, held, ‹t.md = some _›, saved⟩

/-- ESDTNFTUpdateAttributes: the attributes are replaced by the third argument; no other field changes -/
theorem updateAttributes_spec (env : Env) (c : Call) (ctx : Ctx) :
    Post (esdtNFTUpdateAttributes env c) ctx (fun _ ctx' => ∃ tok nb attrs t m, c.args[0]? = some tok ∧
      c.args[1]? = some nb ∧ c.args[2]? = some attrs ∧ u64 (beNat nb) ≠ 0 ∧
      HasRole ctx.accts c.caller tok roleNFTUpdateAttributes ∧
      Held ctx.accts c.caller (esdtKeyPrefix ++ tok) (u64 (beNat nb)) t ∧ t.md = some m ∧
      Saved ctx.accts ctx'.accts c.caller (esdtKeyPrefix ++ tok) { t with md := some { m with attributes := attrs } }
        c.rae) := by
  unfold esdtNFTUpdateAttributes checkCreateBurnAdd checkBasic
  xsteps
  apply Post.mono (spec_checkAllowed _ _ _ rfl)
  rintro _ c1 ⟨h1, hrole⟩
  xsteps
  apply Post.mono (getNFTOnSender_held _ _ _ h1)
  rintro t c2 ⟨h2, held⟩
  xsteps
  apply Post.mono (saveNFT_saved _ _ _ _ h2)
  rintro _ c3 ⟨_, saved⟩
  exact Post.pure ⟨_, _, _, t, _, ‹c.args[0]? = some _›, ‹c.args[1]? = some _›, ‹c.args[2]? = some _›,
    of_decide_eq_false ‹decide (u64 (beNat _) = 0) = false›, hrole, held, ‹t.md = some _›, saved⟩

theorem addURI_effect (env : Env) (c : Call) (ctx : Ctx) :
    Post (esdtNFTAddURI env c) ctx (fun _ ctx' => ∃ tok nb t m, c.args[0]? = some tok ∧ c.args[1]? = some nb ∧
      u64 (beNat nb) ≠ 0 ∧
      MetaWrite ctx.accts ctx'.accts c.caller (esdtKeyPrefix ++ tok) (u64 (beNat nb)) t m
        { m with uris := m.uris ++ c.args.drop 2 }) := by
  apply (addURI_spec env c ctx).mono
  rintro _ _ ⟨tok, nb, t, m, h0, h1, hn, _, held, hm, saved⟩
  exact ⟨tok, nb, t, m, h0, h1, hn, held.metaWrite hm rfl saved⟩

theorem updateAttributes_effect (env : Env) (c : Call) (ctx : Ctx) :
    Post (esdtNFTUpdateAttributes env c) ctx (fun _ ctx' => ∃ tok nb attrs t m, c.args[0]? = some tok ∧
      c.args[1]? = some nb ∧ c.args[2]? = some attrs ∧ u64 (beNat nb) ≠ 0 ∧
      MetaWrite ctx.accts ctx'.accts c.caller (esdtKeyPrefix ++ tok) (u64 (beNat nb)) t m
        { m with attributes := attrs }) := by
  apply (updateAttributes_spec env c ctx).mono
  rintro _ _ ⟨tok, nb, attrs, t, m, h0, h1, h2, hn, _, held, hm, saved⟩
  exact ⟨tok, nb, attrs, t, m, h0, h1, h2, hn, held.metaWrite hm rfl saved⟩

/-- one item of the sender side of a multi transfer (`transferOneTokenOnSenderShard`), everything a successful run
    establishes: the sender's entry is looked up and saved with the value lowered by the quantity; what travels on is the
    WHOLE entry with only `Value` replaced — returned as it is (destination on another shard) or credited to the
    destination's holding, read AFTER the debit (same shard) -/
theorem transferOne_spec (env : Env) (c : Call) (l : Bool) (dst tok : Bytes) (n q : Nat) (verify : Bool) (ctx : Ctx) :
    Post (transferOne env c l dst tok n q verify) ctx (fun t' ctx' => ∃ t v A1, q ≠ 0 ∧ (q : Int) ≤ v ∧
      Held ctx.accts c.caller (esdtKeyPrefix ++ tok) n t ∧ t.value = some v ∧
      Saved ctx.accts A1 c.caller (esdtKeyPrefix ++ tok) { t with value := some (v - q) } c.rae ∧
      (l = false → t' = { t with value := some (q : Int) } ∧ ctx'.accts = A1) ∧
      (l = true → ∃ cur cv, t' = { t with value := some ((q : Int) + cv) } ∧
        Credit env A1 ctx'.accts dst (esdtKeyPrefix ++ tok) { t with value := some (q : Int) } cur q cv verify c.rae)) := by
  unfold transferOne
  xsteps
  apply Post.mono (getNFTOnSender_held _ _ _ rfl)
  rintro t c1 ⟨h1, held⟩
  xsteps
  rename_i hq0 v hv hlt
  apply Post.mono (saveNFT_saved _ _ _ _ h1)
  rintro _ c2 ⟨_, saved⟩
  have hq := of_decide_eq_false hq0
  have hle : (q : Int) ≤ v := by simpa using hlt
  cases l
  · exact Post.pure ⟨t, v, _, hq, hle, held, hv, saved, fun _ => ⟨rfl, rfl⟩, nofun⟩
  · apply (addNFTToDestination_credit env dst _ _ _ _ rfl).mono
    rintro _ c3 ⟨cur, tv, cv, rfl, cr⟩
    cases (Option.some.inj cr.value : (q : Int) = tv)
    exact ⟨t, v, _, hq, hle, held, hv, saved, nofun, fun _ => ⟨cur, cv, rfl, cr⟩⟩

theorem transferOne_effect (env : Env) (c : Call) (l : Bool) (dst tok : Bytes) (n q : Nat) (verify : Bool) (ctx : Ctx) :
    Post (transferOne env c l dst tok n q verify) ctx (fun t' ctx' => ∃ t v A1, q ≠ 0 ∧ (q : Int) ≤ v ∧
      ctx.accts.read c.caller (nftKey (esdtKeyPrefix ++ tok) n) ≠ [] ∧
      decToken (ctx.accts.read c.caller (nftKey (esdtKeyPrefix ++ tok) n)) = some t ∧ t.value = some v ∧
      A1 = ctx.accts.write c.caller (nftKey (esdtKeyPrefix ++ tok) (mdNonce t)) (nftStoredForm { t with value := some (v - q) }) ∧
      (l = false → t' = { t with value := some (q : Int) } ∧ ctx'.accts = A1) ∧
      (l = true → ∃ cur cv, tokenOf (A1.read dst (nftKey (esdtKeyPrefix ++ tok) (mdNonce t))) = some cur ∧
        (∀ cm, cur.md = some cm → ∃ tm, t.md = some tm ∧ cm.hash = tm.hash) ∧ cur.value = some cv ∧
        t' = { t with value := some ((q : Int) + cv) } ∧
        ctx'.accts = A1.write dst (nftKey (esdtKeyPrefix ++ tok) (mdNonce t)) (nftStoredForm t'))) := by
  apply (transferOne_spec env c l dst tok n q verify ctx).mono
  rintro t' _ ⟨t, v, A1, hq, hle, held, hv, saved, hf, ht⟩
  refine ⟨t, v, A1, hq, hle, held.present, held.old, hv, saved.written, hf, fun hl => ?_⟩
  obtain ⟨cur, cv, e, cr⟩ := ht hl
  exact ⟨cur, cv, cr.old, cr.sameHash, cr.curValue, e, e ▸ cr.saved.written⟩

/-- the sender side of ESDTNFTTransfer, everything a successful run establishes, for both placements of the destination:
    the destination argument is an address other than the sender's and not on the metachain; the sender's entry is looked
    up and saved with the value lowered by the quantity (all other fields kept); the token that travels on is the WHOLE
    entry with only `Value` replaced by the quantity — put, encoded, into the 4th argument of the message to the
    destination's shard (the first three arguments and everything after the 4th are the call's own), or credited to the
    destination's holding, read AFTER the debit, on the same shard -/
theorem nftTransferSender_spec (env : Env) (c : Call) (ctx : Ctx) :
    Post (esdtNFTTransferSender env c) ctx (fun out ctx' => ∃ tok nb qb dst t v A1 t', c.args[0]? = some tok ∧
      c.args[1]? = some nb ∧ c.args[2]? = some qb ∧ c.args[3]? = some dst ∧
      dst.length = c.caller.length ∧ dst ≠ c.caller ∧ shardOf env.nshards dst ≠ metaShard ∧
      u64 (beNat nb) ≠ 0 ∧ (beNat qb : Int) ≤ v ∧
      Held ctx.accts c.caller (esdtKeyPrefix ++ tok) (u64 (beNat nb)) t ∧ t.value = some v ∧
      Saved ctx.accts A1 c.caller (esdtKeyPrefix ++ tok) { t with value := some (v - beNat qb) } c.rae ∧
      (encToken t').length < two63 ∧
      (env.self ≠ shardOf env.nshards dst → t' = { t with value := some (beNat qb : Int) } ∧ ctx'.accts = A1 ∧
        ∃ tr, out.outAccts = [{ addr := dst, transfers := [tr] }] ∧
          tr.data = encodeCall fnESDTNFTTransfer (c.args.take 3 ++ [encToken t'] ++
            (if c.args.length > 4 then c.args.drop 4 else []))) ∧
      (env.self = shardOf env.nshards dst → ∃ cur cv, t' = { t with value := some ((beNat qb : Int) + cv) } ∧
        Credit env A1 ctx'.accts dst (esdtKeyPrefix ++ tok) { t with value := some (beNat qb : Int) } cur (beNat qb) cv
          (mustVerifyPayable c 4) c.rae)) := by
  unfold esdtNFTTransferSender
  xsteps
  rename_i tok h0 dst h3 hlen hne hmeta _ nb h1 hn
  -- a sender account that is not on this shard is dereferenced: no successful run
  cases present env.nshards env.self c.caller
  · exact Post.goPanic
  simp only [Bool.not_true, Bool.false_eq_true, if_false]
  xsteps
  apply Post.mono (getNFTOnSender_held _ _ _ rfl)
  rintro t c1 ⟨e1, held⟩
  xsteps
  rename_i qb h2 v hv hlt
  apply Post.mono (saveNFT_saved _ _ _ _ e1)
  rintro _ c2 ⟨_, saved⟩
  have pre : ∀ {P : Prop}, (dst.length = c.caller.length → dst ≠ c.caller → shardOf env.nshards dst ≠ metaShard →
      u64 (beNat nb) ≠ 0 → (beNat qb : Int) ≤ v → P) → P := fun k =>
    k (by simpa using hlen) (of_decide_eq_false hne) (of_decide_eq_false hmeta) (of_decide_eq_false hn) (by simpa using hlt)
  by_cases hx : env.self = shardOf env.nshards dst
  · simp only [hx, decide_true, if_true, Bool.not_true, Bool.false_eq_true, if_false]
    xsteps
    apply Post.mono ((comp_loadAcct RO.comp).keeps rfl)
    intro _ c3 e3
    xsteps
    apply Post.mono (addNFTToDestination_credit env dst _ _ _ _ e3)
    rintro _ c4 ⟨cur, tv, cv, rfl, cr⟩
    cases (Option.some.inj cr.value : (beNat qb : Int) = tv)
    xsteps
    apply Post.mono ((comp_saveAcct RO.comp).keeps rfl)
    intro _ c5 e5
    xsteps
    apply Post.pure
    xsteps
    apply Post.mono (spec_marshalToken_len _ c5)
    rintro _ c6 ⟨e6, rfl, hl⟩
    repeat' (first | xstep | apply Post.pure | split)
    all_goals exact pre fun a b d e f =>
      ⟨tok, nb, qb, dst, t, v, _, _, h0, h1, h2, h3, a, b, d, e, f, held, hv, saved, hl,
        fun h => absurd rfl h, fun _ => ⟨cur, cv, rfl, e6.trans e5 ▸ cr⟩⟩
  · simp only [hx, decide_false, if_false, Bool.not_false, if_true]
    xsteps
    apply Post.pure
    xsteps
    apply Post.mono (spec_marshalToken_len _ c2)
    rintro _ c3 ⟨e3, rfl, hl⟩
    xsteps
    apply Post.pure
    xsteps
    apply Post.pure
    exact pre fun a b d e f =>
      ⟨tok, nb, qb, dst, t, v, _, _, h0, h1, h2, h3, a, b, d, e, f, held, hv, saved, hl,
        fun _ => ⟨rfl, e3, by split <;> exact ⟨_, rfl, rfl⟩⟩, fun h => absurd h hx⟩

theorem nftTransferSender_destination_ok (env : Env) (c : Call) (ctx : Ctx) :
    Post (esdtNFTTransferSender env c) ctx (fun _ _ => ∃ dst, c.args[3]? = some dst ∧
      dst.length = c.caller.length ∧ dst ≠ c.caller ∧ shardOf env.nshards dst ≠ metaShard) := by
  apply (nftTransferSender_spec env c ctx).mono
  rintro _ _ ⟨_, _, _, dst, _, _, _, _, _, _, _, h3, hlen, hne, hmeta, _⟩
  exact ⟨dst, h3, hlen, hne, hmeta⟩

theorem nftTransferSender_crossShard_effect (env : Env) (c : Call) (ctx : Ctx)
    (_hs : present env.nshards env.self c.caller = true)
    (hx : ∀ d, c.args[3]? = some d → env.self ≠ shardOf env.nshards d) :
    Post (esdtNFTTransferSender env c) ctx (fun out ctx' => ∃ tok nb qb dst t v, c.args[0]? = some tok ∧
      c.args[1]? = some nb ∧ c.args[2]? = some qb ∧ c.args[3]? = some dst ∧ u64 (beNat nb) ≠ 0 ∧ (beNat qb : Int) ≤ v ∧
      NftWrite ctx.accts ctx'.accts c.caller (esdtKeyPrefix ++ tok) (u64 (beNat nb)) t v (v - beNat qb) ∧
      ∃ tr, out.outAccts = [{ addr := dst, transfers := [tr] }] ∧
        tr.data = encodeCall fnESDTNFTTransfer (c.args.take 3 ++ [encToken { t with value := some (beNat qb : Int) }] ++
          (if c.args.length > 4 then c.args.drop 4 else []))) := by
  apply (nftTransferSender_spec env c ctx).mono
  rintro _ _ ⟨tok, nb, qb, dst, t, v, A1, t', h0, h1, h2, h3, _, _, _, hn, hle, held, hv, saved, _, hcross, _⟩
  obtain ⟨rfl, rfl, tr⟩ := hcross (hx dst h3)
  exact ⟨tok, nb, qb, dst, t, v, h0, h1, h2, h3, hn, hle, held.nftWrite hn hv saved, tr⟩

theorem nftTransferSender_sameShard_effect (env : Env) (c : Call) (ctx : Ctx)
    (_hs : present env.nshards env.self c.caller = true)
    (hx : ∀ d, c.args[3]? = some d → env.self = shardOf env.nshards d) :
    Post (esdtNFTTransferSender env c) ctx (fun _ ctx' => ∃ tok nb qb dst t v A1 cur cv, c.args[0]? = some tok ∧
      c.args[1]? = some nb ∧ c.args[2]? = some qb ∧ c.args[3]? = some dst ∧ u64 (beNat nb) ≠ 0 ∧ (beNat qb : Int) ≤ v ∧
      NftWrite ctx.accts A1 c.caller (esdtKeyPrefix ++ tok) (u64 (beNat nb)) t v (v - beNat qb) ∧
      tokenOf (A1.read dst (nftKey (esdtKeyPrefix ++ tok) (mdNonce t))) = some cur ∧
      (∀ cm, cur.md = some cm → ∃ tm, t.md = some tm ∧ cm.hash = tm.hash) ∧ cur.value = some cv ∧
      ctx'.accts = A1.write dst (nftKey (esdtKeyPrefix ++ tok) (mdNonce t))
        (nftStoredForm { t with value := some ((beNat qb : Int) + cv) })) := by
  apply (nftTransferSender_spec env c ctx).mono
  rintro _ _ ⟨tok, nb, qb, dst, t, v, A1, t', h0, h1, h2, h3, _, _, _, hn, hle, held, hv, saved, _, _, hsame⟩
  obtain ⟨cur, cv, _, cr⟩ := hsame (hx dst h3)
  exact ⟨tok, nb, qb, dst, t, v, A1, cur, cv, h0, h1, h2, h3, hn, hle, held.nftWrite hn hv saved, cr.old, cr.sameHash,
    cr.curValue, cr.saved.written⟩

/-- the payload built for the destination shard: an NFT item is sent as (token, nonce of its metadata, encoding of the
    whole token) -/
theorem multiPayloadLoop_head (env : Env) (tok : Bytes) (t : Token) (m : MetaData) (hm : t.md = some m)
    (rest : List (Bytes × Token)) (g : Nat) (ctx : Ctx) :
    Post (multiPayloadLoop env ((tok, t) :: rest) g) ctx (fun r _ =>
      ∃ args, r.1 = tok :: beBytes m.nonce :: encToken t :: args) := by
  unfold multiPayloadLoop
  simp only [hm]
  xsteps
  apply Post.mono (spec_marshalToken _ ctx)
  intro b c1 ⟨_, hb⟩
  xsteps
  apply Post.of_forall
  intro r c2 _
  obtain ⟨args, gr⟩ := r
  apply Post.pure
  exact ⟨args, by rw [hb]⟩

end Esdt

namespace Esdt

/-- with caller = receiver, ESDTNFTTransfer is its sender-side path behind two guards -/
theorem nftTransfer_sender_path (env : Env) (c : Call) (ctx : Ctx) (hself : c.caller = c.rcv) :
    Post (esdtNFTTransfer env c) ctx (fun out ctx' => esdtNFTTransferSender env c ctx = .ok (out, ctx')) := by
  unfold esdtNFTTransfer checkBasic
  simp only [hself, if_true]
  xsteps
  exact Post.of_forall (fun _ _ h => h)

end Esdt
