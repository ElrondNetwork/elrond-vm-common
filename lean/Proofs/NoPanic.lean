/-
  Proofs/NoPanic.lean — no built-in function reaches a panic outcome (C11), function by function.
-/
import Proofs.Safe
namespace Esdt

macro "npx" : tactic => `(tactic| repeat' (first | np_step | (show NP _ _; split)))

/-! ### functions that read no token entry -/

theorem np_claimDeveloperRewards (env : Env) (c : Call) (ctx : Ctx) : NP (claimDeveloperRewards env c) ctx := by
  unfold claimDeveloperRewards; npx
theorem np_changeOwnerAddress (env : Env) (c : Call) (ctx : Ctx) : NP (changeOwnerAddress env c) ctx := by
  unfold changeOwnerAddress; npx
theorem np_setUserName (env : Env) (c : Call) (ctx : Ctx) : NP (setUserName env c) ctx := by
  unfold setUserName; npx
theorem np_esdtPause (p : Bool) (env : Env) (c : Call) (ctx : Ctx) : NP (esdtPause p env c) ctx := by
  unfold esdtPause; npx
theorem np_esdtRoles (s : Bool) (env : Env) (c : Call) (ctx : Ctx) : NP (esdtRoles s env c) ctx := by
  unfold esdtRoles checkBasic; npx
theorem np_addCreateRole (a k : Bytes) (ctx : Ctx) : NP (addCreateRole a k) ctx := by
  unfold addCreateRole; npx
macro_rules | `(tactic| np_spec) => `(tactic| exact np_addCreateRole _ _ _)
theorem np_esdtNFTCreateRoleTransfer (env : Env) (c : Call) (ctx : Ctx) : NP (esdtNFTCreateRoleTransfer env c) ctx := by
  unfold esdtNFTCreateRoleTransfer checkBasic; npx

end Esdt

namespace Esdt

theorem np_skvLoop (env : Env) (c : Call) : ∀ (n : Nat) (l : List Bytes) (g : Nat) (ctx : Ctx), l.length = 2 * n →
    NP (skvLoop env c l g) ctx := by
  intro n
  induction n with
  | zero =>
    intro l g ctx hl
    have : l = [] := List.eq_nil_of_length_eq_zero (by omega)
    subst this; unfold skvLoop; np
  | succ n ih =>
    intro l g ctx hl
    match l, hl with
    | [], hl => simp at hl
    | [_], hl => simp at hl; omega
    | k :: v :: rest, hl =>
      have hr : rest.length = 2 * n := by simp at hl; omega
      unfold skvLoop
      np
      split
      · exact ih _ _ _ hr
      · np
        exact ih _ _ _ hr

theorem np_saveKeyValue (env : Env) (c : Call) (ctx : Ctx) : NP (saveKeyValue env c) ctx := by
  unfold saveKeyValue
  np
  have he : c.args.length % 2 = 0 := by
    have := ‹decide (c.args.length % 2 ≠ 0) = false›; simpa using this
  apply NP.bind_any (np_skvLoop env c (c.args.length / 2) _ _ _ (by omega)); intro _ _
  np

end Esdt

namespace Esdt

/-- what reading a token entry relies on: whatever the slot decodes to carries a `Value` -/
def ValAt (A : Accts) (a k : Bytes) : Prop := ∀ t, tokenOf (A.read a k) = some t → t.value.isSome = true

theorem np_addToESDTBalance (a k : Bytes) (d : Int) (rae : Bool) (c : Ctx) (h : ValAt c.accts a k) :
    NP (addToESDTBalance a k d rae) c := by
  unfold addToESDTBalance
  apply NP.bind_of (np_getESDTDataFromKey _ _ _)
  apply Post.mono (spec_getESDTDataFromKey a k c)
  intro t c1 ⟨_, ht⟩
  np
  apply NP.bind_deref (h t ht); intro v _
  np
  exact np_saveESDTData _ _ _ _ rfl

/-- sender-side NFT lookup followed by a value dereference -/
theorem valAt_of_sender {A : Accts} {a k : Bytes} {t : Token} (h : ValAt A a k) (hne : A.read a k ≠ [])
    (hdec : decToken (A.read a k) = some t) : t.value.isSome = true :=
  h t (by simp [tokenOf, hne, hdec])

theorem np_addNFTToDestination (env : Env) (dst : Bytes) (t : Token) (tk : Bytes) (mv rae : Bool) (c : Ctx)
    (hv : t.value.isSome = true)
    (h : ∀ cur, tokenOf (c.accts.read dst (nftKey tk (mdNonce t))) = some cur → cur.value.isSome = true) :
    NP (addNFTToDestination env dst t tk mv rae) c := by
  unfold addNFTToDestination
  apply NP.bind_of (np_verifyPayableIf _ _ _ _)
  apply Post.mono (spec_verifyPayableIf env mv dst c)
  intro _ c1 ⟨h1, _⟩
  show NP (do
      let r ← getNFTOnDestination dst tk (mdNonce t)
      match r with
      | (cur, _) => do
        checkFrozeAndPause dst tk cur rae
        checkSameHash cur t
        let tv ← deref t.value
        let cv ← deref cur.value
        let _ ← saveNFT dst tk { t with value := some (tv + cv) } rae
        pure { t with value := some (tv + cv) }) c1
  apply NP.bind_of (np_getNFTOnDestination _ _ _ _)
  apply Post.mono (spec_getNFTOnDestination dst tk (mdNonce t) c1)
  intro r c2 ⟨_, hcur, _⟩
  obtain ⟨cur, isNew⟩ := r
  simp only at hcur ⊢
  rw [h1] at hcur
  have hcv := h cur hcur
  np
  apply NP.bind_any (np_checkSameHash cur t _); intro _ _
  apply NP.bind_deref hv; intro tv _
  apply NP.bind_deref hcv; intro cv _
  apply NP.bind_any (np_saveNFT _ _ _ _ _ rfl); intro _ _
  np

/-! ### single-read token functions -/

theorem np_esdtLocalMint (env : Env) (c : Call) (ctx : Ctx)
    (h : ∀ tok, c.args[0]? = some tok → ValAt ctx.accts c.caller (esdtKeyPrefix ++ tok)) :
    NP (esdtLocalMint env c) ctx := by
  unfold esdtLocalMint checkLocalAction checkBasic
  np
  apply NP.bind_any (np_addToESDTBalance _ _ _ _ _ (by simp only [*])); intro _ _
  np

theorem np_esdtLocalBurn (env : Env) (c : Call) (ctx : Ctx)
    (h : ∀ tok, c.args[0]? = some tok → ValAt ctx.accts c.caller (esdtKeyPrefix ++ tok)) :
    NP (esdtLocalBurn env c) ctx := by
  unfold esdtLocalBurn checkLocalAction checkBasic
  np
  apply NP.bind_any (np_addToESDTBalance _ _ _ _ _ (by simp only [*])); intro _ _
  np

theorem np_esdtBurn (env : Env) (c : Call) (ctx : Ctx)
    (h : ∀ tok, c.args[0]? = some tok → ValAt ctx.accts c.caller (esdtKeyPrefix ++ tok)) :
    NP (esdtBurn env c) ctx := by
  unfold esdtBurn checkBasic
  np
  apply NP.bind_any (np_addToESDTBalance _ _ _ _ _ (h _ ‹_›)); intro _ _
  np

theorem np_esdtFreezeWipe (k : FreezeKind) (env : Env) (c : Call) (ctx : Ctx)
    (h : ∀ tok, c.args[0]? = some tok → ValAt ctx.accts c.rcv (esdtKeyPrefix ++ tok)) :
    NP (esdtFreezeWipe k env c) ctx := by
  unfold esdtFreezeWipe
  np
  split
  · apply NP.bind_any (np_getESDTDataFromKey _ _ _); intro _ _
    np
  · apply NP.bind_of (np_getESDTDataFromKey _ _ _)
    apply Post.mono (spec_getESDTDataFromKey _ _ _)
    intro t c1 ⟨_, ht⟩
    have hv : t.value.isSome = true := h _ ‹_› t ht
    refine NP.bind_any (np_saveESDTData _ _ _ _ (by exact hv)) ?_; intro _ _
    np

end Esdt

namespace Esdt

/-! ### NFT functions on the caller's own entry -/

theorem np_esdtNFTCreate (env : Env) (c : Call) (ctx : Ctx) : NP (esdtNFTCreate env c) ctx := by
  unfold esdtNFTCreate checkCreateBurnAdd checkBasic
  np
  refine NP.bind_any (np_saveNFT _ _ _ _ _ (by rfl)) ?_; intro _ _
  np

/-- common part: sender lookup, then the continuation gets the entry with its `Value` (and metadata when nonce ≠ 0) -/
theorem NP.bind_getNFTOnSender {β} {a tk : Bytes} {n : Nat} {f : Token → M β} {c : Ctx}
    (hval : ValAt c.accts a (nftKey tk n))
    (h : ∀ t c1, c1.accts = c.accts → t.value.isSome = true → (0 < n → t.md.isSome = true) → NP (f t) c1) :
    NP (getNFTOnSender a tk n >>= f) c := by
  apply NP.bind_of (np_getNFTOnSender _ _ _ _)
  apply Post.mono (spec_getNFTOnSender a tk n c)
  intro t c1 ⟨h1, hne, hdec, hmd, _⟩
  exact h t c1 h1 (valAt_of_sender hval hne hdec) hmd

theorem np_esdtNFTAddQuantity (env : Env) (c : Call) (ctx : Ctx)
    (h : ∀ tok nb, c.args[0]? = some tok → c.args[1]? = some nb →
      ValAt ctx.accts c.caller (nftKey (esdtKeyPrefix ++ tok) (u64 (beNat nb)))) :
    NP (esdtNFTAddQuantity env c) ctx := by
  unfold esdtNFTAddQuantity checkCreateBurnAdd checkBasic
  np
  apply NP.bind_getNFTOnSender (by simp only [*])
  intro t c2 _ hv _
  np
  apply NP.bind_deref hv; intro v _
  refine NP.bind_any (np_saveNFT _ _ _ _ _ (by rfl)) ?_; intro _ _
  np

theorem np_esdtNFTBurn (env : Env) (c : Call) (ctx : Ctx)
    (h : ∀ tok nb, c.args[0]? = some tok → c.args[1]? = some nb →
      ValAt ctx.accts c.caller (nftKey (esdtKeyPrefix ++ tok) (u64 (beNat nb)))) :
    NP (esdtNFTBurn env c) ctx := by
  unfold esdtNFTBurn checkCreateBurnAdd checkBasic
  np
  apply NP.bind_getNFTOnSender (by simp only [*])
  intro t c2 _ hv _
  np
  apply NP.bind_deref hv; intro v _
  np
  refine NP.bind_any (np_saveNFT _ _ _ _ _ (by rfl)) ?_; intro _ _
  np

theorem np_esdtNFTAddURI (env : Env) (c : Call) (ctx : Ctx)
    (h : ∀ tok nb, c.args[0]? = some tok → c.args[1]? = some nb →
      ValAt ctx.accts c.caller (nftKey (esdtKeyPrefix ++ tok) (u64 (beNat nb)))) :
    NP (esdtNFTAddURI env c) ctx := by
  unfold esdtNFTAddURI checkCreateBurnAdd checkBasic
  np
  have hn0 : 0 < u64 (beNat _) := Nat.pos_of_ne_zero (of_decide_eq_false ‹decide (u64 (beNat _) = 0) = false›)
  apply NP.bind_getNFTOnSender (by simp only [*])
  intro t c2 _ hv hmd
  apply NP.bind_deref (hmd hn0); intro m _
  refine NP.bind_any (np_saveNFT _ _ _ _ _ (by exact hv)) ?_; intro _ _
  np

theorem np_esdtNFTUpdateAttributes (env : Env) (c : Call) (ctx : Ctx)
    (h : ∀ tok nb, c.args[0]? = some tok → c.args[1]? = some nb →
      ValAt ctx.accts c.caller (nftKey (esdtKeyPrefix ++ tok) (u64 (beNat nb)))) :
    NP (esdtNFTUpdateAttributes env c) ctx := by
  unfold esdtNFTUpdateAttributes checkCreateBurnAdd checkBasic
  np
  have hn0 : 0 < u64 (beNat _) := Nat.pos_of_ne_zero (of_decide_eq_false ‹decide (u64 (beNat _) = 0) = false›)
  apply NP.bind_getNFTOnSender (by simp only [*])
  intro t c2 _ hv hmd
  apply NP.bind_deref (hmd hn0); intro m _
  refine NP.bind_any (np_saveNFT _ _ _ _ _ (by exact hv)) ?_; intro _ _
  np

end Esdt

namespace Esdt

/-! ### canonical entries: what the protocol itself writes -/

theorem leBytes_length_mono : ∀ (n m : Nat), m ≤ n → (leBytes m).length ≤ (leBytes n).length := by
  intro n
  induction n using Nat.strongRecOn with
  | _ n ih =>
    intro m hm
    by_cases hm0 : m = 0
    · subst hm0; rw [leBytes_zero]; simp
    · have hn0 : n ≠ 0 := by omega
      rw [leBytes_pos m hm0, leBytes_pos n hn0]
      simp only [List.length_cons]
      have := ih (n / 256) (Nat.div_lt_self (Nat.pos_of_ne_zero hn0) (by decide)) (m / 256) (Nat.div_le_div_right hm)
      omega

theorem encBigInt_length_mono (v v' : Int) (h0 : 0 ≤ v') (h : v' ≤ v) :
    (encBigInt (some v')).length ≤ (encBigInt (some v)).length := by
  unfold encBigInt
  by_cases hv' : v' = 0
  · subst hv'
    by_cases hv : v = 0
    · simp [hv]
    · have hpos : v.natAbs ≠ 0 := by omega
      have := beBytes_ne_nil _ hpos
      have hl : 0 < (beBytes v.natAbs).length := List.length_pos_iff.mpr this
      simp [hv]; omega
  · have hv : v ≠ 0 := by omega
    simp only [hv', hv, if_false]
    have hle : v'.natAbs ≤ v.natAbs := by omega
    have := leBytes_length_mono _ _ hle
    simp only [List.length_cons, beBytes, List.length_reverse]
    omega

/-- a token the protocol can have written: within the codec's domain, with a non-negative `Value` -/
structure GoodTok (t : Token) : Prop where
  ok : TokenOK t
  val : ∃ v, t.value = some v ∧ 0 ≤ v

theorem GoodTok.shrink {t : Token} (h : GoodTok t) (v v' : Int) (hv : t.value = some v) (h0 : 0 ≤ v') (hle : v' ≤ v) :
    GoodTok { t with value := some v' } := by
  refine ⟨⟨h.ok.type, ?_, h.ok.properties, h.ok.reserved, h.ok.md⟩, v', rfl, h0⟩
  have := h.ok.value
  rw [hv] at this
  exact Nat.lt_of_le_of_lt (encBigInt_length_mono v v' h0 hle) this

theorem goodTok_default : GoodTok fungibleDefault := by
  refine ⟨⟨by decide, by decide, by decide, by decide, ?_⟩, 0, rfl, Int.le_refl _⟩
  intro m hm; cases hm

/-- slot holding nothing or a canonical encoding of a good token -/
def GoodAt (A : Accts) (a k : Bytes) : Prop := A.read a k = [] ∨ ∃ t, A.read a k = encToken t ∧ GoodTok t

theorem GoodAt.tokenOf {A : Accts} {a k : Bytes} (h : GoodAt A a k) (t : Token) (ht : tokenOf (A.read a k) = some t) :
    GoodTok t := by
  rcases h with h | ⟨t0, h, hg⟩
  · rw [h] at ht; simp [Esdt.tokenOf] at ht; subst ht; exact goodTok_default
  · rw [h, tokenOf_encToken t0 hg.ok] at ht; cases ht; exact hg

theorem GoodAt.valAt {A : Accts} {a k : Bytes} (h : GoodAt A a k) : ValAt A a k := by
  intro t ht
  obtain ⟨v, hv, _⟩ := (h.tokenOf t ht).val
  simp [hv]

theorem goodAt_write_stored (A : Accts) (a k : Bytes) (t : Token) (h : GoodTok t) :
    GoodAt (A.write a k (storedForm t)) a k := by
  unfold GoodAt
  rw [Accts.read_write, if_pos ⟨rfl, rfl⟩]
  unfold storedForm
  split
  · exact Or.inl rfl
  · exact Or.inr ⟨t, rfl, h⟩

theorem valAt_write_ne (A : Accts) (a k v a2 k2 : Bytes) (hne : ¬ (a = a2 ∧ k = k2)) (h : ValAt A a2 k2) :
    ValAt (A.write a k v) a2 k2 := by
  unfold ValAt; rw [Accts.read_write, if_neg hne]; exact h

/-! ### ESDTTransfer -/

theorem np_esdtTransfer (env : Env) (c : Call) (ctx : Ctx)
    (hS : ∀ tok, c.args[0]? = some tok → present env.nshards env.self c.caller = true →
      GoodAt ctx.accts c.caller (esdtKeyPrefix ++ tok))
    (hD : ∀ tok, c.args[0]? = some tok → present env.nshards env.self c.rcv = true →
      GoodAt ctx.accts c.rcv (esdtKeyPrefix ++ tok)) :
    NP (esdtTransfer env c) ctx := by
  unfold esdtTransfer checkBasic
  np
  rename_i tok h0 _ _ _
  cases hs : present env.nshards env.self c.caller <;> cases hd : present env.nshards env.self c.rcv <;>
    simp only [Bool.false_eq_true, if_false, if_true]
  · npx
  · np
    apply NP.bind_any (np_addToESDTBalance _ _ _ _ _ (by simp only [*]; exact (hD tok h0 hd).valAt)); intro _ _
    npx
  · np
    apply NP.bind_any (np_addToESDTBalance _ _ _ _ _ (hS tok h0 hs).valAt); intro _ _
    npx
  · np
    apply NP.bind_of (np_addToESDTBalance _ _ _ _ _ (hS tok h0 hs).valAt)
    apply Post.mono (spec_addToESDTBalance _ _ _ _ ctx)
    intro _ c1 ⟨t, v, ht, _, hv, hnn, _, hw⟩
    np
    have hval : ValAt c1.accts c.rcv (esdtKeyPrefix ++ tok) := by
      rw [hw]
      by_cases hself : c.caller = c.rcv
      · rw [← hself]
        have hg := (hS tok h0 hs).tokenOf t ht
        exact (goodAt_write_stored _ _ _ _ (hg.shrink v _ hv hnn (by omega))).valAt
      · exact valAt_write_ne _ _ _ _ _ _ (fun ⟨e, _⟩ => hself e) (hD tok h0 hd).valAt
    apply NP.bind_any (np_addToESDTBalance _ _ _ _ _ (by rename_i hc; rw [hc]; exact hval)); intro _ _
    npx

end Esdt

namespace Esdt

/-! ### ESDTNFTTransfer -/

/-- every token-keyed slot of an account decodes (if at all) to a token carrying a `Value` -/
def AcctVal (A : Accts) (a : Bytes) : Prop := ∀ s, ValAt A a (esdtKeyPrefix ++ s)

theorem AcctVal.nft {A : Accts} {a : Bytes} (h : AcctVal A a) (tok : Bytes) (n : Nat) :
    ValAt A a (nftKey (esdtKeyPrefix ++ tok) n) := by
  have := h (tok ++ beBytes n)
  simpa [nftKey, List.append_assoc] using this

theorem np_esdtNFTTransferSender (env : Env) (c : Call) (ctx : Ctx) (hlen : 4 ≤ c.args.length)
    (hpres : present env.nshards env.self c.caller = true)
    (hS : AcctVal ctx.accts c.caller)
    (hD : ∀ dst, c.args[3]? = some dst → env.self = shardOf env.nshards dst → AcctVal ctx.accts dst) :
    NP (esdtNFTTransferSender env c) ctx := by
  unfold esdtNFTTransferSender
  simp only [hpres, Bool.not_true, Bool.false_eq_true, if_false]
  np
  rename_i tok _ dst hdst _ hneq _ _ nb _ hnz
  have hn0 : 0 < u64 (beNat nb) := Nat.pos_of_ne_zero (of_decide_eq_false hnz)
  apply NP.bind_of (np_getNFTOnSender _ _ _ _)
  apply Post.mono (spec_getNFTOnSender _ _ _ ctx)
  intro t c1 ⟨h1, hne, hdec, hmd, _⟩
  have hv : t.value.isSome = true := valAt_of_sender (hS.nft tok _) hne hdec
  have hmd' : t.md.isSome = true := hmd hn0
  np
  apply NP.bind_deref hv; intro v _
  np
  apply NP.bind_of (np_saveNFT _ _ _ _ _ rfl)
  apply Post.mono (spec_saveNFT _ _ _ _ c1)
  intro _ c2 ⟨_, _, _, _, h2⟩
  by_cases hx : env.self = shardOf env.nshards dst
  · simp only [hx, decide_true, if_true, Bool.not_true, Bool.false_eq_true, if_false]
    np
    have hne' : dst ≠ c.caller := of_decide_eq_false hneq
    refine NP.bind_of (np_addNFTToDestination env dst _ _ _ _ _ rfl ?_) ?_
    · intro cur hcur
      rename_i hc3
      rw [hc3, h2, h1, Accts.read_write, if_neg (fun ⟨e, _⟩ => hne' e.symm)] at hcur
      exact (hD dst hdst hx).nft tok _ cur hcur
    · apply Post.mono (spec_addNFTToDestination env dst _ _ _ _ _)
      intro t' c4 ⟨_, _, _, _, _, _, _, _, _, ht', _⟩
      have hmd3 : t'.md.isSome = true := by rw [ht']; exact hmd'
      repeat' (first | np_step | (apply NP.bind_deref hmd3; intro _ _) | (show NP _ _; split))
  · simp only [hx, decide_false, Bool.false_eq_true, if_false, Bool.not_false, if_true]
    repeat' (first | np_step | (apply NP.bind_deref hmd'; intro _ _) | (show NP _ _; split))

end Esdt

namespace Esdt

/-- a protocol-generated NFT payload: decodes (if at all) to a token with `Value` and metadata -/
def PayloadOK (b : Bytes) : Prop := ∀ t, decToken b = some t → t.value.isSome = true ∧ t.md.isSome = true

theorem np_esdtNFTTransfer (env : Env) (c : Call) (ctx : Ctx)
    (hreach : c.caller = c.rcv → present env.nshards env.self c.caller = true)
    (hS : c.caller = c.rcv → AcctVal ctx.accts c.caller)
    (hD : ∀ dst, c.args[3]? = some dst → c.caller = c.rcv → env.self = shardOf env.nshards dst → AcctVal ctx.accts dst)
    (hR : c.caller ≠ c.rcv → AcctVal ctx.accts c.rcv)
    (hP : c.caller ≠ c.rcv → ∀ b, c.args[3]? = some b → PayloadOK b) :
    NP (esdtNFTTransfer env c) ctx := by
  unfold esdtNFTTransfer checkBasic
  np
  have hlen : 4 ≤ c.args.length := by np_bound
  by_cases hself : c.caller = c.rcv
  · simp only [hself, if_true]
    have := np_esdtNFTTransferSender env c ctx hlen (hreach hself) (hS hself) (fun d hd hx => hD d hd hself hx)
    simpa [hself] using this
  · simp only [hself, if_false]
    npg
    rename_i tok _ payload hpl
    apply NP.bind_of (np_unmarshalToken _ _)
    apply Post.mono (spec_unmarshalToken _ ctx)
    intro t c1 ⟨h1, hdec⟩
    obtain ⟨hv, hmd⟩ := hP hself payload hpl t hdec
    refine NP.bind_any (np_addNFTToDestination env c.rcv t _ _ _ _ hv ?_) ?_
    · intro cur hcur
      rw [h1] at hcur
      exact (hR hself).nft tok _ cur hcur
    · intro _ _
      repeat' (first | np_step | (apply NP.bind_deref hmd; intro _ _) | (show NP _ _; split))

end Esdt

namespace Esdt

/-! ### MultiESDTNFTTransfer: argument-derived counts and indices

The per-item ledger helpers run on intermediate states of the same call.  The loops are proved panic-free relative to any
state invariant `I` that (a) makes each per-item helper panic-free and (b) is preserved by it; the per-item obligations on a
concrete well-formed state are `np_addToESDTBalance`, `np_addNFTToDestination`, `np_transferOne`. -/

structure ItemsSafe (env : Env) (c : Call) (I : Accts → Prop) : Prop where
  one_np : ∀ l dst tok n q v ctx, dst ≠ c.caller → c.args[0]? = some dst → I ctx.accts →
    NP (transferOne env c l dst tok n q v) ctx
  one_inv : ∀ l dst tok n q v ctx, dst ≠ c.caller → c.args[0]? = some dst → I ctx.accts →
    Post (transferOne env c l dst tok n q v) ctx (fun _ c' => I c'.accts)

/-- the destination side's helpers -/
structure DestItemsSafe (env : Env) (c : Call) (I : Accts → Prop) : Prop where
  dest_np : ∀ t tok mv ctx, I ctx.accts → t.value.isSome = true → t.md.isSome = true →
    NP (addNFTToDestination env c.rcv t (esdtKeyPrefix ++ tok) mv c.rae) ctx
  dest_inv : ∀ t tok mv ctx, I ctx.accts → (∃ b, decToken b = some t) →
    Post (addNFTToDestination env c.rcv t (esdtKeyPrefix ++ tok) mv c.rae) ctx (fun _ c' => I c'.accts)
  bal_np : ∀ tok d ctx, I ctx.accts → NP (addToESDTBalance c.rcv (esdtKeyPrefix ++ tok) d c.rae) ctx
  bal_inv : ∀ tok d ctx, I ctx.accts →
    Post (addToESDTBalance c.rcv (esdtKeyPrefix ++ tok) d c.rae) ctx (fun _ c' => I c'.accts)

theorem post_transferOne_value (env : Env) (c : Call) (l : Bool) (dst tok : Bytes) (n q : Nat) (v : Bool) (ctx : Ctx) :
    Post (transferOne env c l dst tok n q v) ctx (fun t _ => t.value.isSome = true) := by
  apply Post.mono (transferOne_effect env c l dst tok n q v ctx)
  intro t' _ ⟨t, _, _, _, _, _, _, _, _, hf, ht⟩
  cases l
  · rw [(hf rfl).1]; rfl
  · obtain ⟨_, _, _, _, _, e, _⟩ := ht rfl; rw [e]; rfl

theorem post_multiSenderLoop (env : Env) (c : Call) (l : Bool) (dst : Bytes) (v : Bool) (I : Accts → Prop)
    (hI : ItemsSafe env c I) (hd1 : dst ≠ c.caller) (hd2 : c.args[0]? = some dst) :
    ∀ n idx ctx, I ctx.accts → Post (multiSenderLoop env c l dst v n idx) ctx
      (fun r c' => I c'.accts ∧ ∀ p ∈ r.1, p.2.value.isSome = true) := by
  intro n
  induction n with
  | zero => intro idx ctx h; unfold multiSenderLoop; exact Post.pure ⟨h, by simp⟩
  | succ n ih =>
    intro idx ctx h
    unfold multiSenderLoop
    xsteps
    apply Post.mono (Post.and (hI.one_inv _ _ _ _ _ _ _ hd1 hd2 h) (post_transferOne_value _ _ _ _ _ _ _ _ _))
    intro t c1 ⟨h1, ht⟩
    xsteps
    apply Post.mono (ih _ _ h1)
    intro r c2 ⟨h2, hr⟩
    obtain ⟨ts, logs⟩ := r
    apply Post.pure
    refine ⟨h2, ?_⟩
    intro p hp
    simp only [List.mem_cons] at hp
    rcases hp with rfl | hp
    · exact ht
    · exact hr p hp

theorem np_multiSenderLoop (env : Env) (c : Call) (l : Bool) (dst : Bytes) (v : Bool) (I : Accts → Prop)
    (hI : ItemsSafe env c I) (hd1 : dst ≠ c.caller) (hd2 : c.args[0]? = some dst) :
    ∀ n idx ctx, I ctx.accts → idx + 3 * n ≤ c.args.length → NP (multiSenderLoop env c l dst v n idx) ctx := by
  intro n
  induction n with
  | zero => intro idx ctx _ _; unfold multiSenderLoop; np
  | succ n ih =>
    intro idx ctx h hb
    unfold multiSenderLoop
    npg
    apply NP.bind_of (hI.one_np _ _ _ _ _ _ _ hd1 hd2 h)
    apply Post.mono (hI.one_inv _ _ _ _ _ _ _ hd1 hd2 h)
    intro _ c1 h1
    apply NP.bind_any (ih _ _ h1 (by omega)); intro r _
    obtain ⟨ts, logs⟩ := r
    np

theorem np_multiPayloadLoop (env : Env) : ∀ toks g ctx, (∀ p ∈ toks, p.2.value.isSome = true) →
    NP (multiPayloadLoop env toks g) ctx := by
  intro toks
  induction toks with
  | nil => intro g ctx _; unfold multiPayloadLoop; np
  | cons p rest ih =>
    intro g ctx hv
    obtain ⟨tokenID, t⟩ := p
    have hrest : ∀ p ∈ rest, p.2.value.isSome = true := fun p hp => hv p (by simp [hp])
    unfold multiPayloadLoop
    split
    · np
      apply NP.bind_any (ih _ _ hrest); intro r _
      obtain ⟨a, b⟩ := r
      np
    · apply NP.bind_deref (hv (tokenID, t) (by simp)); intro _ _
      apply NP.bind_any (ih _ _ hrest); intro r _
      obtain ⟨a, b⟩ := r
      np

theorem np_multiTransferSender (env : Env) (c : Call) (ctx : Ctx) (I : Accts → Prop) (hI : ItemsSafe env c I)
    (h0 : I ctx.accts) (hlen : 4 ≤ c.args.length) (hphys : c.args.length < two63)
    (hpres : present env.nshards env.self c.caller = true) :
    NP (multiTransferSender env c) ctx := by
  unfold multiTransferSender
  simp only [hpres, Bool.not_true, Bool.false_eq_true, if_false]
  npg
  rename_i dst hd2 _ hneq _ a1 _ _ hn hmin _
  have hd1 : dst ≠ c.caller := of_decide_eq_false hneq
  have hb : 2 + 3 * u64 (beNat a1) ≤ c.args.length := by
    have h1 : ¬ (u64 (beNat a1) > c.args.length / 3) := of_decide_eq_false hn
    have h2 : ¬ (c.args.length < u64 (u64 (u64 (beNat a1) * 3) + 2)) := of_decide_eq_false hmin
    simp only [u64, two64, two63] at *
    omega
  repeat' (first
    | npg_step
    | (apply NP.bind_ro (np_loadAcct _) (comp_loadAcct RO.comp); intro _ c1 hc1
       have h0 : I c1.accts := by rw [hc1]; exact h0)
    | (apply NP.bind_of (np_multiSenderLoop env c _ dst _ I hI hd1 hd2 _ _ _ (by assumption) (by omega))
       apply Post.mono (post_multiSenderLoop env c _ dst _ I hI hd1 hd2 _ _ _ (by assumption))
       intro r _ ⟨_, hvals⟩)
    | (apply NP.bind_any (np_multiPayloadLoop env _ _ _ (by assumption)); intro _ _)
    | np_step
    | (show NP _ _; split))

end Esdt

namespace Esdt

theorem np_multiDestLoop (env : Env) (c : Call) (m : Nat) (I : Accts → Prop) (hI : DestItemsSafe env c I)
    (hP : ∀ b ∈ c.args, PayloadOK b) :
    ∀ n idx ctx, I ctx.accts → idx + 3 * n ≤ c.args.length → NP (multiDestLoop env c m n idx) ctx := by
  intro n
  induction n with
  | zero => intro idx ctx _ _; unfold multiDestLoop; np
  | succ n ih =>
    intro idx ctx h hb
    unfold multiDestLoop
    npg
    rename_i a2 ha2
    split
    · apply NP.bind_of (np_unmarshalToken _ _)
      apply Post.mono (spec_unmarshalToken _ ctx)
      intro t c1 ⟨h1, hdec⟩
      obtain ⟨hv, hmd⟩ := hP a2 (List.mem_of_getElem? ha2) t hdec
      have h1' : I c1.accts := by rw [h1]; exact h
      apply NP.bind_of (hI.dest_np _ _ _ _ h1' hv hmd)
      apply Post.mono (hI.dest_inv _ _ _ _ h1' ⟨_, hdec⟩)
      intro _ c2 h2
      npg
      apply NP.bind_any (ih _ _ h2 (by omega)); intro _ _
      np
    · apply NP.bind_ro (np_verifyPayableIf _ _ _ _) (comp_verifyPayableIf RO.comp _ _ _); intro _ c1 h1
      have h1' : I c1.accts := by rw [h1]; exact h
      apply NP.bind_of (hI.bal_np _ _ _ h1')
      apply Post.mono (hI.bal_inv _ _ _ h1')
      intro _ c2 h2
      npg
      apply NP.bind_any (ih _ _ h2 (by omega)); intro _ _
      np

/-- MultiESDTNFTTransfer, relative to a state invariant for the per-item helpers: no index, count or allocation panic -/
theorem np_multiTransfer (env : Env) (c : Call) (ctx : Ctx) (I : Accts → Prop)
    (hI : c.caller = c.rcv → ItemsSafe env c I) (hD : c.caller ≠ c.rcv → DestItemsSafe env c I)
    (h0 : I ctx.accts) (hphys : c.args.length < two63)
    (hreach : c.caller = c.rcv → present env.nshards env.self c.caller = true)
    (hP : c.caller ≠ c.rcv → ∀ b ∈ c.args, PayloadOK b) :
    NP (multiTransfer env c) ctx := by
  unfold multiTransfer checkBasic
  npg
  have hlen : 4 ≤ c.args.length := by np_bound
  by_cases hself : c.caller = c.rcv
  · simp only [hself, if_true]
    have := np_multiTransferSender env c ctx I (hI hself) h0 hlen hphys (hreach hself)
    simpa [hself] using this
  · simp only [hself, if_false]
    npg
    rename_i a0 _ _ hn hmin
    have hb : 1 + 3 * u64 (beNat a0) ≤ c.args.length := by
      have h1 : ¬ (u64 (beNat a0) > c.args.length / 3) := of_decide_eq_false hn
      have h2 : ¬ (c.args.length < u64 (u64 (u64 (beNat a0) * 3) + 1)) := of_decide_eq_false hmin
      simp only [u64, two64, two63] at *
      omega
    apply NP.bind_any (np_multiDestLoop env c _ I (hD hself) (hP hself) _ _ _ h0 (by omega)); intro _ _
    repeat' (first | np_step | (show NP _ _; split))

/-- the wrapped-count guard (F4 class): a token count above a third of the argument count is refused before any loop,
    slice or index depends on it — sender side -/
theorem multiTransferSender_count_guard (env : Env) (c : Call) (ctx ctx' : Ctx) (out : VMOutput) (a1 : Bytes)
    (h1 : c.args[1]? = some a1) (h : multiTransferSender env c ctx = .ok (out, ctx')) :
    u64 (beNat a1) ≤ c.args.length / 3 ∧ u64 (beNat a1) ≠ 0 := by
  have hp : Post (multiTransferSender env c) ctx (fun _ _ => u64 (beNat a1) ≤ c.args.length / 3 ∧ u64 (beNat a1) ≠ 0) := by
    unfold multiTransferSender
    xsteps
    rename_i a1' h1' hz hn _ _
    rw [h1] at h1'; cases h1'
    apply Post.intro
    intro _ _
    exact ⟨by have := of_decide_eq_false hn; omega, of_decide_eq_false hz⟩
  exact hp.elim h

end Esdt

namespace Esdt

/-- one sender-side item of a multi transfer on a concrete state: panic-free when the two accounts' token slots carry
    values -/
theorem np_transferOne (env : Env) (c : Call) (l : Bool) (dst tok : Bytes) (n q : Nat) (v : Bool) (ctx : Ctx)
    (hS : AcctVal ctx.accts c.caller) (hne : dst ≠ c.caller)
    (hD : l = true → AcctVal ctx.accts dst) :
    NP (transferOne env c l dst tok n q v) ctx := by
  unfold transferOne
  npg
  apply NP.bind_of (np_getNFTOnSender _ _ _ _)
  apply Post.mono (spec_getNFTOnSender _ _ _ ctx)
  intro t c1 ⟨h1, hne1, hdec, hmdn, _⟩
  have hv : t.value.isSome = true := valAt_of_sender (hS.nft tok _) hne1 hdec
  apply NP.bind_deref hv; intro x _
  npg
  apply NP.bind_of (np_saveNFT _ _ _ _ _ rfl)
  apply Post.mono (spec_saveNFT _ _ _ _ c1)
  intro _ c2 ⟨_, _, _, _, h2⟩
  cases l
  · simp only [Bool.false_eq_true, if_false]; np
  · simp only [if_true]
    refine np_addNFTToDestination env dst _ _ _ _ _ rfl ?_
    intro cur hcur
    rw [h2, h1, Accts.read_write, if_neg (fun ⟨e, _⟩ => hne e.symm)] at hcur
    exact (hD rfl).nft tok _ cur hcur

end Esdt
