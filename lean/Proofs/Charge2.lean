/-
  Proofs/Charge2.lean — C16: closed charge formulas with per-byte components of the NFT payload
  (ESDTNFTTransfer sender side; MultiESDTNFTTransfer sender side).
-/
import Proofs.Charge
import Proofs.Metadata
namespace Esdt

/-- ESDTNFTTransfer, sender side, destination on another shard: the charge is the function's own cost plus
    DataCopyPerByte × the length of the NFT payload put on the wire (the encoding of the sender's whole entry with
    `Value := quantity`), whether or not gas is forwarded to an attached call -/
theorem charge_nftTransferSender_crossShard (env : Env) (c : Call) (ctx : Ctx)
    (hs : present env.nshards env.self c.caller = true)
    (hx : ∀ d, c.args[3]? = some d → env.self ≠ shardOf env.nshards d) :
    Post (esdtNFTTransferSender env c) ctx (fun out _ => ∃ tok nb qb t, c.args[0]? = some tok ∧ c.args[1]? = some nb ∧
      c.args[2]? = some qb ∧
      decToken (ctx.accts.read c.caller (nftKey (esdtKeyPrefix ++ tok) (u64 (beNat nb)))) = some t ∧
      charge c.gas out = env.gas.fn.esdtNFTTransfer +
        u64 ((encToken { t with value := some (beNat qb : Int) }).length * env.gas.base.dataCopyPerByte)) := by
  unfold esdtNFTTransferSender
  simp only [hs, Bool.not_true, Bool.false_eq_true, if_false]
  xsteps
  rename_i tok h0 dst hdst _ _ _ hgas nb h1 _
  apply Post.mono (spec_getNFTOnSender _ _ _ ctx)
  intro t c1 ⟨_, _, hdec, _, _⟩
  xstep; xstep; xstep; xstep; xstep; xstep; xstep
  rename_i qb h2 v hv hlt
  xsteps
  apply Post.mono (spec_saveNFT _ _ _ _ c1)
  intro _ c2 _
  have hxx := hx _ hdst
  simp only [hxx, decide_false, Bool.false_eq_true, if_false, Bool.not_false, if_true]
  xsteps
  apply Post.pure
  xsteps
  apply Post.mono (spec_marshalToken _ c2)
  intro b c3 ⟨_, hb⟩
  xsteps
  rename_i hguard
  apply Post.pure
  xsteps
  apply Post.pure
  refine ⟨tok, nb, qb, t, h0, h1, h2, hdec, ?_⟩
  subst hb
  have hg1 : ¬ c.gas < env.gas.fn.esdtNFTTransfer := of_decide_eq_false hgas
  have hg2 : ¬ (u64 ((encToken { t with value := some (beNat qb : Int) }).length * env.gas.base.dataCopyPerByte) >
      c.gas - env.gas.fn.esdtNFTTransfer) := of_decide_eq_false hguard
  cases hsc : (decide (c.args.length > 4) && isSmartContractAddress dst) <;>
    simp only [hsc, charge, fwd, addNFTTransfer, List.flatMap_cons, List.flatMap_nil, List.map_cons, List.map_nil,
      List.sum_cons, List.sum_nil, List.append_nil, if_true, if_false, Bool.false_eq_true] <;> omega

end Esdt

namespace Esdt

/-- per-byte component of a multi transfer: DataCopyPerByte × encoded length, for every transferred token that carries
    metadata (fungible items travel as plain amounts and cost nothing extra) -/
def payloadCost (env : Env) (toks : List (Bytes × Token)) : Nat :=
  (toks.map fun p => match p.2.md with
    | some _ => u64 ((encToken p.2).length * env.gas.base.dataCopyPerByte)
    | none => 0).sum

theorem multiPayloadLoop_cost (env : Env) : ∀ (toks : List (Bytes × Token)) (g : Nat) (ctx : Ctx),
    Post (multiPayloadLoop env toks g) ctx (fun r _ => r.2 + payloadCost env toks = g) := by
  intro toks
  induction toks with
  | nil => intro g ctx; unfold multiPayloadLoop; exact Post.pure (by simp [payloadCost])
  | cons p rest ih =>
    intro g ctx
    obtain ⟨tokenID, t⟩ := p
    unfold multiPayloadLoop
    split
    · rename_i m hm
      apply Post.bind
      apply Post.mono (spec_marshalToken t ctx)
      intro b c1 ⟨_, hb⟩
      apply Post.bind; apply Post.guardE; intro hg
      apply Post.bind
      apply Post.mono (ih _ _)
      intro r c2 hr
      obtain ⟨args, gr⟩ := r
      apply Post.pure
      have hg' : ¬ (u64 (b.length * env.gas.base.dataCopyPerByte) > g) := of_decide_eq_false hg
      simp only [payloadCost, List.map_cons, List.sum_cons, hm] at hr ⊢
      subst hb
      omega
    · rename_i hm
      apply Post.bind; apply Post.deref; intro v _
      apply Post.bind
      apply Post.mono (ih _ _)
      intro r c2 hr
      obtain ⟨args, gr⟩ := r
      apply Post.pure
      simp only [payloadCost, List.map_cons, List.sum_cons, hm] at hr ⊢
      omega

theorem multiSenderLoop_length (env : Env) (c : Call) (l : Bool) (dst : Bytes) (v : Bool) :
    ∀ n idx ctx, Post (multiSenderLoop env c l dst v n idx) ctx (fun r _ => r.1.length = n) := by
  intro n
  induction n with
  | zero => intro idx ctx; unfold multiSenderLoop; exact Post.pure rfl
  | succ n ih =>
    intro idx ctx
    unfold multiSenderLoop
    xsteps
    apply Post.intro; intro t c1
    xsteps
    apply Post.mono (ih _ _)
    intro r c2 hr
    obtain ⟨ts, logs⟩ := r
    exact Post.pure (by simp [hr])

/-- MultiESDTNFTTransfer, sender side (destination on the same or on another shard): the charge is the function's cost
    times the number of tokens plus DataCopyPerByte × encoded length of every NFT payload -/
theorem charge_multiTransferSender (env : Env) (c : Call) (ctx : Ctx)
    (hs : present env.nshards env.self c.caller = true) :
    Post (multiTransferSender env c) ctx (fun out _ => ∃ a1 toks, c.args[1]? = some a1 ∧
      toks.length = u64 (beNat a1) ∧
      charge c.gas out = u64 (u64 (beNat a1) * env.gas.fn.esdtNFTMultiTransfer) + payloadCost env toks) := by
  unfold multiTransferSender
  simp only [hs, Bool.not_true, Bool.false_eq_true, if_false]
  xsteps
  rename_i a1 h1 _ _ _ hgas
  have hg1 : ¬ c.gas < u64 (u64 (beNat a1) * env.gas.fn.esdtNFTMultiTransfer) := of_decide_eq_false hgas
  repeat' (first
    | xstep
    | (apply Post.mono (comp_loadAcct RO.comp _); intro _ _ _)
    | (apply Post.mono (comp_saveAcct RO.comp _); intro _ _ _)
    | (apply Post.mono (multiSenderLoop_length env c _ _ _ _ _ _); intro r _ hlen)
    | (apply Post.mono (multiPayloadLoop_cost env _ _ _); intro pr _ hcost)
    | (show Post _ _ _; split))
  all_goals
    apply Post.pure
    refine ⟨a1, _, h1, hlen, ?_⟩
    simp only [charge, fwd, addNFTTransfer, addOutputTransfer, List.flatMap_cons, List.flatMap_nil, List.map_cons,
      List.map_nil, List.sum_cons, List.sum_nil, List.append_nil]
    (repeat' split) <;> omega

end Esdt

namespace Esdt

/-- SaveKeyValue's per-byte components: PersistPerByte × (key + value) for every pair, plus StorePerByte × growth of the
    stored value for every pair that changes it (the value found when the pair is processed: earlier pairs count) -/
def skvCost (env : Env) (a : Bytes) : Nat → Accts → List Bytes → Nat
  | 0, _, _ => 0
  | fuel + 1, A, k :: v :: rest =>
    (v.length + k.length) * env.gas.base.persistPerByte +
    (if A.read a k = v then skvCost env a fuel A rest
     else env.gas.base.storePerByte * (v.length - (A.read a k).length) + skvCost env a fuel (A.write a k v) rest)
  | _ + 1, _, _ => 0

theorem skvLoop_cost (env : Env) (c : Call) : ∀ (n : Nat) (l : List Bytes) (g : Nat) (ctx : Ctx), l.length ≤ 2 * n →
    g + skvCost env c.caller n ctx.accts l < two64 →
    Post (skvLoop env c l g) ctx (fun r _ => r = g + skvCost env c.caller n ctx.accts l) := by
  intro n
  induction n with
  | zero =>
    intro l g ctx hl _
    have : l = [] := List.eq_nil_of_length_eq_zero (by omega)
    subst this; unfold skvLoop; exact Post.pure (by simp [skvCost])
  | succ n ih =>
    intro l g ctx hl hb
    match l, hl, hb with
    | [], _, _ => unfold skvLoop; exact Post.pure (by simp [skvCost])
    | [_], _, _ => unfold skvLoop; exact Post.goPanic
    | k :: v :: rest, hl, hb =>
      have hr : rest.length ≤ 2 * n := by simp at hl; omega
      unfold skvLoop
      simp only [skvCost] at hb ⊢
      xsteps
      apply Post.mono (spec_readKey _ _ ctx)
      intro old c1 ⟨h1, hold⟩
      subst hold
      have hp : (v.length + k.length) * env.gas.base.persistPerByte < two64 := by
        split at hb <;> omega
      have e1 : u64 (g + u64 ((v.length + k.length) * env.gas.base.persistPerByte)) =
          g + (v.length + k.length) * env.gas.base.persistPerByte := by
        rw [u64_of_lt _ hp, u64_of_lt]
        split at hb <;> omega
      split
      · rename_i heq
        rw [if_pos heq] at hb
        rw [e1]
        have := ih rest (g + (v.length + k.length) * env.gas.base.persistPerByte) c1 hr (by rw [h1]; omega)
        rw [h1] at this
        apply Post.mono this
        intro r _ hrr; rw [hrr]; omega
      · rename_i hneq
        rw [if_neg hneq] at hb
        have hch : (if (ctx.accts.read c.caller k).length < v.length then v.length - (ctx.accts.read c.caller k).length else 0) =
            v.length - (ctx.accts.read c.caller k).length := by split <;> omega
        rw [hch, e1]
        have hs : env.gas.base.storePerByte * (v.length - (ctx.accts.read c.caller k).length) < two64 := by omega
        have e2 : u64 (g + (v.length + k.length) * env.gas.base.persistPerByte +
            u64 (env.gas.base.storePerByte * (v.length - (ctx.accts.read c.caller k).length))) =
            g + (v.length + k.length) * env.gas.base.persistPerByte +
              env.gas.base.storePerByte * (v.length - (ctx.accts.read c.caller k).length) := by
          rw [u64_of_lt _ hs, u64_of_lt]; omega
        rw [e2]
        xsteps
        apply Post.mono (spec_writeKey _ _ _ c1)
        intro _ c2 h2
        have hA : c2.accts = ctx.accts.write c.caller k v := by rw [h2, h1]
        have := ih rest (g + (v.length + k.length) * env.gas.base.persistPerByte +
              env.gas.base.storePerByte * (v.length - (ctx.accts.read c.caller k).length)) c2 hr (by rw [hA]; omega)
        rw [hA] at this
        apply Post.mono this
        intro r _ hrr; rw [hrr]; omega

/-- SaveKeyValue: the charge is the function's own cost plus the per-byte components of `skvCost` (no 64-bit wrap) -/
theorem charge_saveKeyValue (env : Env) (c : Call) (ctx : Ctx)
    (hb : env.gas.fn.saveKeyValue + skvCost env c.caller c.args.length ctx.accts c.args < two64) :
    Post (saveKeyValue env c) ctx (fun out _ =>
      charge c.gas out = env.gas.fn.saveKeyValue + skvCost env c.caller c.args.length ctx.accts c.args) := by
  unfold saveKeyValue
  xsteps
  apply Post.mono (skvLoop_cost env c c.args.length c.args _ ctx (by omega) hb)
  intro r c1 hr
  xsteps
  rename_i hg
  apply Post.pure
  have : ¬ c.gas < r := of_decide_eq_false hg
  simp only [charge, fwd, List.flatMap_nil, List.map_nil, List.sum_nil]
  omega

end Esdt

namespace Esdt

/-- ESDTNFTTransfer, sender side, destination on the executing shard: own cost + DataCopyPerByte × length of the encoding of
    the entry as merged into the destination (`Value := quantity + existing`) — the code marshals it although no message
    leaves the shard; the charge is still priced by one schedule -/
theorem charge_nftTransferSender_sameShard (env : Env) (c : Call) (ctx : Ctx)
    (hs : present env.nshards env.self c.caller = true)
    (hx : ∀ d, c.args[3]? = some d → env.self = shardOf env.nshards d) :
    Post (esdtNFTTransferSender env c) ctx (fun out _ => ∃ t' : Token,
      charge c.gas out = env.gas.fn.esdtNFTTransfer + u64 ((encToken t').length * env.gas.base.dataCopyPerByte)) := by
  unfold esdtNFTTransferSender
  simp only [hs, Bool.not_true, Bool.false_eq_true, if_false]
  xsteps
  rename_i tok h0 dst hdst _ _ _ hgas nb h1 _
  have hg1 : ¬ c.gas < env.gas.fn.esdtNFTTransfer := of_decide_eq_false hgas
  apply Post.mono (spec_getNFTOnSender _ _ _ ctx)
  intro t c1 _
  xsteps
  apply Post.mono (spec_saveNFT _ _ _ _ c1)
  intro _ c2 _
  have hxx := hx _ hdst
  simp only [hxx, decide_true, if_true, Bool.not_true, Bool.false_eq_true, if_false]
  xsteps
  apply Post.mono (comp_loadAcct RO.comp c2)
  intro _ c3 _
  xsteps
  apply Post.mono (spec_addNFTToDestination env _ _ _ _ _ c3)
  intro t' c4 _
  xsteps
  apply Post.mono (comp_saveAcct RO.comp c4)
  intro _ c5 _
  xsteps
  apply Post.pure
  xsteps
  apply Post.mono (spec_marshalToken _ c5)
  intro b c6 ⟨_, hb⟩
  xsteps
  rename_i hguard
  have hg2 : ¬ (u64 (b.length * env.gas.base.dataCopyPerByte) > c.gas - env.gas.fn.esdtNFTTransfer) :=
    of_decide_eq_false hguard
  subst hb
  repeat' (first | xstep | (show Post _ _ _; split) | apply Post.pure)
  all_goals
    refine ⟨t', ?_⟩
    simp only [charge, fwd, addOutputTransfer, List.flatMap_cons, List.flatMap_nil, List.map_cons, List.map_nil,
      List.sum_cons, List.sum_nil, List.append_nil]
    omega

end Esdt
