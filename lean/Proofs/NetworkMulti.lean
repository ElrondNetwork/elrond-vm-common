/-
  Proofs/NetworkMulti.lean — the world of shards with in-flight messages for MultiESDTNFTTransfer (any mix of fungible, SFT
  and NFT items, repeated items included): per storage key, Σ_shards Σ_accounts quantity + Σ_in-flight item quantity is
  invariant under every history of multi transfers, deliveries and refunds.

  The quantity a message carries is read off its arguments exactly the way the destination loop reads them
  (`loopContrib`), so "what the message is worth" is by construction "what a delivery will credit".
-/
import Proofs.NetworkNFT
namespace Esdt

/-! ### what an argument list carries, read the way `multiDestLoop` reads it -/

/-- one item (token, nonce bytes, third argument): the storage key it will be credited under and the quantity -/
def itemContrib (tok nb pl k : Bytes) : Int :=
  if u64 (beNat nb) > 0 then
    match decToken pl with
    | some t => if nftKey (esdtKeyPrefix ++ tok) (mdNonce t) = k then t.value.getD 0 else 0
    | none => 0
  else if esdtKeyPrefix ++ tok = k then (beNat pl : Int) else 0

def loopContrib (args : List Bytes) : Nat → Nat → Bytes → Int
  | 0, _, _ => 0
  | n + 1, idx, k =>
    (match args[idx]?, args[idx + 1]?, args[idx + 2]? with
     | some tok, some nb, some pl => itemContrib tok nb pl k
     | _, _, _ => 0) + loopContrib args n (idx + 3) k

/-- an NFT / SFT item whose payload decodes carries a non-negative quantity and metadata with a non-zero nonce (what the
    sender side puts on the wire: `multiSenderLoop_supply`) -/
def itemOK (nb pl : Bytes) : Prop :=
  u64 (beNat nb) > 0 → ∀ t, decToken pl = some t →
    (∃ q, t.value = some q ∧ 0 ≤ q) ∧ ∀ md, t.md = some md → md.nonce ≠ 0

def loopOK (args : List Bytes) : Nat → Nat → Prop
  | 0, _ => True
  | n + 1, idx =>
    (∀ nb pl, args[idx + 1]? = some nb → args[idx + 2]? = some pl → itemOK nb pl) ∧ loopOK args n (idx + 3)

/-! ### writes through `saveESDTData` keep `MdPos` -/

theorem mdpos_write_stored {A : Accts} (a k : Bytes) (t : Token) (v' : Int) (hA : MdPos A)
    (hold : tokenOf (A.read a k) = some t)
    (hl : (storedForm { t with value := some v' }).length < two63) :
    MdPos (A.write a k (storedForm { t with value := some v' })) := by
  intro a2 k2 t0 m hk2 hne hdec hm
  rw [Accts.read_write] at hne hdec
  by_cases he : a = a2 ∧ k = k2
  · rw [if_pos he] at hne hdec
    unfold storedForm at hne hdec hl
    split at hne
    · exact absurd rfl hne
    · rename_i hz
      rw [if_neg hz] at hdec hl
      rw [roundtrip_of_length _ ((tokenOf_num hold).withValue _) hl] at hdec
      cases hdec
      -- the metadata is the one of the entry read before
      have hm' : t.md = some m := hm
      unfold tokenOf at hold
      split at hold
      · cases hold; cases hm'
      · rename_i hraw
        exact hA a k t m (he.2 ▸ hk2) hraw hold hm'
  · rw [if_neg he] at hne hdec
    exact hA a2 k2 t0 m hk2 hne hdec hm

/-- a fungible slot rewritten through `addToESDTBalance` on a well-formed shard -/
theorem oneWrite_step {A A' : Accts} {a tok : Bytes} {t : Token} {v d : Int}
    (hw : OneWrite A A' a (esdtKeyPrefix ++ tok) t v d) (hI : SInv A) (hS' : Short A') :
    SInv A' ∧ ∀ k, balAt A' k = balAt A k + (if esdtKeyPrefix ++ tok = k then d else 0) := by
  have hl := hS' a (esdtKeyPrefix ++ tok)
  refine ⟨⟨hw.nodup hI.nodup, (hw.canon hI.canon (tokKey_esdt tok)).toCanon hS', hS', ?_⟩, fun k => hw.balAt hI.nodup hl k⟩
  rw [hw.written]
  apply mdpos_write_stored _ _ _ _ hI.mdpos hw.old
  rw [hw.written, Accts.read_write, if_pos ⟨rfl, rfl⟩] at hl
  exact hl

/-! ### destination side -/

/-- what the destination side does to the shard with one item `(tok, nb, pl)`: an NFT / SFT item (the decoded payload) is
    merged into the receiver's entry as `addNFTToDestination` describes it, a fungible one is added to the balance -/
inductive DestItem (env : Env) (c : Call) (mv : Bool) (tok nb pl : Bytes) (A A' : Accts) : Prop
  | nft (t t' cur : Token) (tv cv : Int) : u64 (beNat nb) > 0 → decToken pl = some t →
      tokenOf (A.read c.rcv (nftKey (esdtKeyPrefix ++ tok) (mdNonce t))) = some cur →
      (mv = true → env.payable c.rcv = .yes) → GateOpen A c.rcv (esdtKeyPrefix ++ tok) cur c.rae →
      (∀ cm, cur.md = some cm → ∃ tm, t.md = some tm ∧ cm.hash = tm.hash) →
      t.value = some tv → cur.value = some cv → t' = { t with value := some (tv + cv) } →
      GateOpen A c.rcv (esdtKeyPrefix ++ tok) t' c.rae →
      A' = A.write c.rcv (nftKey (esdtKeyPrefix ++ tok) (mdNonce t)) (nftStoredForm t') → DestItem env c mv tok nb pl A A'
  | fungible (t : Token) (v : Int) : ¬ u64 (beNat nb) > 0 → GateOpen A c.rcv (esdtKeyPrefix ++ tok) t c.rae →
      OneWrite A A' c.rcv (esdtKeyPrefix ++ tok) t v (beNat pl) → DestItem env c mv tok nb pl A A'

/-- the destination loop as the chain of its item writes (short stored values stay short along it) -/
inductive DestChain (env : Env) (c : Call) (mv : Bool) : Nat → Nat → Accts → Accts → Prop
  | done {idx : Nat} {A : Accts} : DestChain env c mv 0 idx A A
  | item {n idx : Nat} {A A1 A' : Accts} {tok nb pl : Bytes} : c.args[idx]? = some tok → c.args[idx + 1]? = some nb →
      c.args[idx + 2]? = some pl → DestItem env c mv tok nb pl A A1 → (Short A → Short A1) →
      DestChain env c mv n (idx + 3) A1 A' → DestChain env c mv (n + 1) idx A A'

theorem Post.imp {α} {m : M α} {c : Ctx} {P : Prop} {Q : α → Ctx → Prop} (h : P → Post m c Q) :
    Post m c (fun a c' => P → Q a c') :=
  Post.of_forall fun _ _ he hp => (h hp).elim he

/-- the one walk of the destination loop: what it does, item by item -/
theorem multiDestLoop_chain (env : Env) (c : Call) (m : Nat) : ∀ n idx ctx,
    Post (multiDestLoop env c m n idx) ctx (fun _ c' => DestChain env c (mustVerifyPayable c m) n idx ctx.accts c'.accts) := by
  intro n
  induction n with
  | zero => intro idx ctx; unfold multiDestLoop; exact Post.pure .done
  | succ n ih =>
    intro idx ctx
    unfold multiDestLoop
    xsteps
    rename_i tok h0 nb h1 a2 h2
    split
    · rename_i hpos
      xsteps
      apply Post.mono (spec_unmarshalToken _ ctx)
      intro t c1 ⟨h1', hdec⟩
      xsteps
      apply Post.mono (Post.and (spec_addNFTToDestination env c.rcv t _ _ _ c1)
        (Post.imp (sp_addNFTToDestination env c.rcv t _ _ _ c1)))
      intro t' c2 ⟨⟨cur, tv, cv, hcur, hpay, hg, hh, htv, hcv, ht', hg', hw⟩, hS2⟩
      rw [h1'] at hcur hg hg' hw hS2
      xsteps
      apply Post.mono (ih _ c2)
      intro _ c3 h3
      exact Post.pure (.item h0 h1 h2 (.nft t t' cur tv cv hpos hdec hcur hpay hg hh htv hcv ht' hg' hw) hS2 h3)
    · rename_i hpos
      xsteps
      apply Post.mono (comp_verifyPayableIf RO.comp _ _ _ ctx)
      intro _ c1 h1'
      xsteps
      apply Post.mono (Post.and (spec_addToESDTBalance _ _ _ _ c1) (Post.imp (sp_addToESDTBalance _ _ _ _ c1)))
      intro _ c2 ⟨⟨t, v, ht, hty, hv, hnn, hg, hw⟩, hS2⟩
      rw [h1'] at ht hg hw hS2
      xsteps
      apply Post.mono (ih _ c2)
      intro _ c3 h3
      exact Post.pure (.item h0 h1 h2 (.fungible t v hpos hg ⟨ht, hty, hv, hnn, hw⟩) hS2 h3)

/-- along the chain every item is credited exactly as `loopContrib` reads it, and the shard invariant is kept -/
theorem DestChain.supply {env : Env} {c : Call} {mv : Bool} (hrsys : c.rcv ≠ systemAccountAddress) :
    ∀ {n idx : Nat} {A A' : Accts}, DestChain env c mv n idx A A' → SInv A → loopOK c.args n idx →
      SInv A' ∧ ∀ k, balAt A' k = balAt A k + loopContrib c.args n idx k := by
  intro n idx A A' h
  induction h with
  | done => exact fun hI _ => ⟨hI, fun k => (Int.add_zero _).symm⟩
  | @item n idx A A1 A' tok nb pl h0 h1 h2 hit hS _ ih =>
    intro hI ⟨hitem, hrest⟩
    have hS1 := hS hI.short
    suffices h : SInv A1 ∧ ∀ k, balAt A1 k = balAt A k + itemContrib tok nb pl k by
      obtain ⟨hI3, hb3⟩ := ih h.1 hrest
      exact ⟨hI3, fun k => by rw [hb3 k, h.2 k]; simp only [loopContrib, h0, h1, h2]; omega⟩
    cases hit with
    | nft t t' cur tv cv hpos hdec hcur _ _ _ htv hcv ht' _ hw =>
      obtain ⟨⟨q, hq, hq0⟩, hmd⟩ := hitem nb pl h1 h2 hpos t hdec
      rw [htv] at hq; cases hq
      obtain ⟨hI2, hb⟩ := nftCredit_step hI c.rcv tok hrsys t cur tv cv hcur hcv hq0 (decToken_num _ _ hdec) hmd
        (ht' ▸ hw) hS1
      exact ⟨hI2, fun k => by rw [hb k]; simp only [itemContrib, hpos, if_true, hdec, htv, Option.getD_some]⟩
    | fungible t v hpos _ how =>
      obtain ⟨hI2, hb⟩ := oneWrite_step how hI hS1
      exact ⟨hI2, fun k => by rw [hb k]; simp only [itemContrib, hpos, if_false]⟩

/-- the destination loop credits, item by item, exactly what `loopContrib` reads off the arguments, and keeps the shard
    invariant -/
theorem multiDestLoop_supply (env : Env) (c : Call) (m : Nat) (hrsys : c.rcv ≠ systemAccountAddress) :
    ∀ n idx ctx, SInv ctx.accts → loopOK c.args n idx →
      Post (multiDestLoop env c m n idx) ctx (fun _ c' => SInv c'.accts ∧
        ∀ k, balAt c'.accts k = balAt ctx.accts k + loopContrib c.args n idx k) :=
  fun n idx ctx hI hok => Post.mono (multiDestLoop_chain env c m n idx ctx) fun _ _ h => h.supply hrsys hI hok

end Esdt

namespace Esdt

/-! ### sender side -/

/-- what the sender side puts into a message for one item -/
def TokOK (t : Token) : Prop :=
  NumOK t ∧ (∃ q, t.value = some q ∧ 0 ≤ q) ∧ ∀ md, t.md = some md → md.nonce ≠ 0

def toksContrib (toks : List (Bytes × Token)) (k : Bytes) : Int :=
  (toks.map fun p => if nftKey (esdtKeyPrefix ++ p.1) (mdNonce p.2) = k then p.2.value.getD 0 else 0).sum

/-- the sender-side lookup only accepts an entry whose metadata says the nonce asked for (or nonce 0), and an entry asked
    for with a nonce has metadata -/
theorem transferOne_nonce (env : Env) (c : Call) (l : Bool) (dst tok : Bytes) (n q : Nat) (v : Bool) (ctx : Ctx) :
    Post (transferOne env c l dst tok n q v) ctx (fun _ _ => ∀ t,
      decToken (ctx.accts.read c.caller (nftKey (esdtKeyPrefix ++ tok) n)) = some t →
      (0 < n → t.md.isSome = true) ∧ ∀ m, t.md = some m → m.nonce = 0 ∨ m.nonce = n) := by
  unfold transferOne
  xsteps
  apply Post.mono (spec_getNFTOnSender _ _ _ ctx)
  intro t c1 ⟨_, _, hdec, hmd, hnon⟩
  apply Post.intro
  intro _ _ t' hdec'
  rw [hdec] at hdec'; cases hdec'
  exact ⟨hmd, hnon⟩

/-- one item on the sender side: the shard's per-key sum falls by the quantity under the item's key (cross-shard: it is now
    carried by the returned token) or stays as it was (destination on the same shard); the shard invariant is kept -/
theorem transferOne_supply (env : Env) (c : Call) (l : Bool) (dst tok : Bytes) (n q : Nat) (v : Bool) (ctx : Ctx)
    (hI : SInv ctx.accts) (hne : dst ≠ c.caller) (hdsys : dst ≠ systemAccountAddress) :
    Post (transferOne env c l dst tok n q v) ctx (fun t' c' => SInv c'.accts ∧
      (∀ k, balAt c'.accts k +
        (if l = true then 0 else (if nftKey (esdtKeyPrefix ++ tok) (mdNonce t') = k then t'.value.getD 0 else 0)) =
        balAt ctx.accts k) ∧
      (l = false → TokOK t')) := by
  apply Post.mono (Post.and (transferOne_effect env c l dst tok n q v ctx)
    (Post.and (transferOne_nonce env c l dst tok n q v ctx) (sp_transferOne env c l dst tok n q v ctx hI.short)))
  intro t' c' ⟨⟨t, x, A1, hq0, hqx, hpres, hdec, hx, hA1, hf, hts⟩, hnonce, hS'⟩
  obtain ⟨hmdsome, hnon⟩ := hnonce t hdec
  have hnum : NumOK t := decToken_num _ _ hdec
  have hmdt : ∀ md, t.md = some md → md.nonce ≠ 0 := fun md hmd => hI.mdpos _ _ t md (tokKey_nft _ _) hpres hdec hmd
  -- the entry is stored under the key of its own nonce
  have hk : mdNonce t = n := ownNonce hI.mdpos (tokKey_nft _ _) hpres hdec hmdsome hnon
  have hold : balOf (ctx.accts.read c.caller (nftKey (esdtKeyPrefix ++ tok) (mdNonce t))) = x := by
    rw [hk]; exact balOf_dec hpres hdec hx
  cases l
  · -- destination on another shard
    obtain ⟨ht', hc'⟩ := hf rfl
    obtain ⟨hI', hb⟩ := nftSlot_step hI c.caller tok t (x - q) (by omega) hnum hmdt (hc'.trans hA1) hS'
    refine ⟨hI', fun k => ?_, fun _ => ?_⟩
    · have hn' : mdNonce t' = mdNonce t := by rw [ht']; rfl
      have hv' : t'.value.getD 0 = q := by rw [ht']; rfl
      rw [hb k, hold, hn', hv']
      simp only [Bool.false_eq_true, if_false]
      split <;> omega
    · rw [ht']
      exact ⟨hnum.withValue _, ⟨q, rfl, by omega⟩, hmdt⟩
  · -- destination on the same shard
    obtain ⟨cur, cv, hcur, _, hcv, ht', hc'⟩ := hts rfl
    rw [ht'] at hc'
    obtain ⟨hI', hb⟩ := nftMove_step hI c.caller dst tok hne hdsys t cur x q cv hold (by omega) hqx hnum hmdt hA1 hcur hcv
      hc' hS'
    exact ⟨hI', fun k => by rw [hb k]; simp only [if_true]; omega, fun h => by cases h⟩

end Esdt

namespace Esdt

theorem toksContrib_cons (p : Bytes × Token) (ps : List (Bytes × Token)) (k : Bytes) :
    toksContrib (p :: ps) k =
      (if nftKey (esdtKeyPrefix ++ p.1) (mdNonce p.2) = k then p.2.value.getD 0 else 0) + toksContrib ps k := by
  simp [toksContrib]

/-- the sender loop as the chain of its `transferOne` calls, with the tokens they return -/
inductive SendChain (env : Env) (c : Call) (l : Bool) (dst : Bytes) (v : Bool) :
    Nat → Nat → Ctx → Ctx → List (Bytes × Token) → Prop
  | done {idx : Nat} {ctx : Ctx} : SendChain env c l dst v 0 idx ctx ctx []
  | item {n idx : Nat} {ctx c1 c' : Ctx} {tok nb qb : Bytes} {t : Token} {ts : List (Bytes × Token)} :
      c.args[idx]? = some tok → c.args[idx + 1]? = some nb → c.args[idx + 2]? = some qb →
      transferOne env c l dst tok (u64 (beNat nb)) (beNat qb) v ctx = .ok (t, c1) →
      SendChain env c l dst v n (idx + 3) c1 c' ts → SendChain env c l dst v (n + 1) idx ctx c' ((tok, t) :: ts)

/-- the one walk of the sender loop -/
theorem multiSenderLoop_chain (env : Env) (c : Call) (l : Bool) (dst : Bytes) (v : Bool) : ∀ n idx ctx,
    Post (multiSenderLoop env c l dst v n idx) ctx (fun r c' => SendChain env c l dst v n idx ctx c' r.1) := by
  intro n
  induction n with
  | zero => intro idx ctx; unfold multiSenderLoop; exact Post.pure .done
  | succ n ih =>
    intro idx ctx
    unfold multiSenderLoop
    xsteps
    rename_i tok h0 nb h1 qb h2
    apply Post.mono (Post.of_forall (fun _ _ h => h))
    intro t c1 hrun
    xsteps
    apply Post.mono (ih _ c1)
    intro r c2 hch
    obtain ⟨ts, logs⟩ := r
    exact Post.pure (.item h0 h1 h2 hrun hch)

theorem SendChain.supply {env : Env} {c : Call} {l : Bool} {dst : Bytes} {v : Bool} (hne : dst ≠ c.caller)
    (hdsys : dst ≠ systemAccountAddress) :
    ∀ {n idx : Nat} {ctx c' : Ctx} {ts : List (Bytes × Token)}, SendChain env c l dst v n idx ctx c' ts → SInv ctx.accts →
      SInv c'.accts ∧ (∀ k, balAt c'.accts k + (if l = true then 0 else toksContrib ts k) = balAt ctx.accts k) ∧
      (l = false → ∀ p ∈ ts, TokOK p.2) ∧ ts.length = n := by
  intro n idx ctx c' ts h
  induction h with
  | done => exact fun hI => ⟨hI, fun k => by simp [toksContrib], fun _ p hp => (List.not_mem_nil hp).elim, rfl⟩
  | @item n idx ctx c1 c' tok nb qb t ts _ _ _ hrun _ ih =>
    intro hI
    obtain ⟨hI1, hb1, hok1⟩ := (transferOne_supply env c l dst tok _ _ v ctx hI hne hdsys).elim hrun
    obtain ⟨hI2, hb2, hok2, hlen⟩ := ih hI1
    refine ⟨hI2, fun k => ?_, fun hl p hp => ?_, by rw [List.length_cons, hlen]⟩
    · have h1 := hb1 k
      have h2 := hb2 k
      cases l
      · simp only [Bool.false_eq_true, if_false] at h1 h2 ⊢
        rw [toksContrib_cons]
        simp only
        omega
      · simp only [if_true] at h1 h2 ⊢
        omega
    · rcases List.mem_cons.mp hp with rfl | hp
      · exact hok1 hl
      · exact hok2 hl p hp

/-- the sender loop: the shard's per-key sums fall by what the returned tokens carry (cross-shard) or stay (same shard) -/
theorem multiSenderLoop_supply (env : Env) (c : Call) (l : Bool) (dst : Bytes) (v : Bool) (hne : dst ≠ c.caller)
    (hdsys : dst ≠ systemAccountAddress) :
    ∀ n idx ctx, SInv ctx.accts →
      Post (multiSenderLoop env c l dst v n idx) ctx (fun r c' => SInv c'.accts ∧
        (∀ k, balAt c'.accts k + (if l = true then 0 else toksContrib r.1 k) = balAt ctx.accts k) ∧
        (l = false → ∀ p ∈ r.1, TokOK p.2) ∧ r.1.length = n) :=
  fun n idx ctx hI => Post.mono (multiSenderLoop_chain env c l dst v n idx ctx) fun _ _ h => h.supply hne hdsys hI

/-! ### the payload -/

/-- the three arguments the sender side emits for one transferred token -/
def payloadItem (p : Bytes × Token) : List Bytes :=
  match p.2.md with
  | some m => [p.1, beBytes m.nonce, encToken p.2]
  | none => [p.1, [0], beBytes (p.2.value.getD 0).natAbs]

def payloadOf (toks : List (Bytes × Token)) : List Bytes := toks.flatMap payloadItem

theorem multiPayloadLoop_shape (env : Env) : ∀ (toks : List (Bytes × Token)) (g : Nat) (ctx : Ctx),
    (∀ p ∈ toks, TokOK p.2) →
    Post (multiPayloadLoop env toks g) ctx (fun r c' => c'.accts = ctx.accts ∧ r.1 = payloadOf toks ∧
      ∀ p ∈ toks, p.2.md.isSome = true → (encToken p.2).length < two63) := by
  intro toks
  induction toks with
  | nil =>
    intro g ctx _
    unfold multiPayloadLoop
    exact Post.pure ⟨rfl, rfl, fun p hp => by cases hp⟩
  | cons p rest ih =>
    intro g ctx hok
    obtain ⟨tokenID, t⟩ := p
    have hrest : ∀ p ∈ rest, TokOK p.2 := fun p hp => hok p (List.mem_cons_of_mem _ hp)
    unfold multiPayloadLoop
    cases hm : t.md with
    | some m =>
      simp only []
      xsteps
      apply Post.mono (spec_marshalToken_len t ctx)
      intro b c1 ⟨h1, hb, hbl⟩
      xsteps
      apply Post.mono (ih _ c1 hrest)
      intro r c2 ⟨h2, hr, hlen⟩
      obtain ⟨args, gr⟩ := r
      apply Post.pure
      simp only at hr
      refine ⟨by rw [h2, h1], ?_, ?_⟩
      · simp only [payloadOf, List.flatMap_cons, payloadItem, hm]
        rw [hr, hb]; rfl
      · intro p hp hsome
        rcases List.mem_cons.mp hp with rfl | hp
        · rw [← hb]; exact hbl
        · exact hlen p hp hsome
    | none =>
      simp only []
      obtain ⟨_, ⟨q, hq, _⟩, _⟩ := hok (tokenID, t) List.mem_cons_self
      simp only at hq
      xsteps
      apply Post.mono (ih _ ctx hrest)
      intro r c2 ⟨h2, hr, hlen⟩
      obtain ⟨args, gr⟩ := r
      apply Post.pure
      simp only at hr
      refine ⟨h2, ?_, ?_⟩
      · simp only [payloadOf, List.flatMap_cons, payloadItem, hm]
        rw [hr]
        have : t.value = some _ := ‹t.value = some _›
        rw [this] at hq; cases hq
        simp [payloadOf, this]
      · intro p hp hsome
        rcases List.mem_cons.mp hp with rfl | hp
        · simp only at hsome; rw [hm] at hsome; cases hsome
        · exact hlen p hp hsome

end Esdt

namespace Esdt

/-! ### the message the sender emits is worth what was debited -/

theorem nftKey_nonce0 (k : Bytes) : nftKey k 0 = k := by simp [nftKey, beBytes_zero]

theorem itemContrib_payload (p : Bytes × Token) (hok : TokOK p.2)
    (hlen : p.2.md.isSome = true → (encToken p.2).length < two63) (k : Bytes) :
    ∃ a b d, payloadItem p = [a, b, d] ∧
      itemContrib a b d k = (if nftKey (esdtKeyPrefix ++ p.1) (mdNonce p.2) = k then p.2.value.getD 0 else 0) ∧
      itemOK b d := by
  obtain ⟨tok, t⟩ := p
  obtain ⟨hnum, ⟨q, hq, hq0⟩, hmd⟩ := hok
  simp only at hnum hq hmd hlen ⊢
  cases hm : t.md with
  | some m =>
    have hn64 : m.nonce < two64 := (hnum.md m hm).1
    have hpos : 0 < m.nonce := Nat.pos_of_ne_zero (hmd m hm)
    have hrt : decToken (encToken t) = some t := roundtrip_of_length t hnum (hlen (by rw [hm]; rfl))
    refine ⟨tok, beBytes m.nonce, encToken t, by simp [payloadItem, hm], ?_, ?_⟩
    · simp only [itemContrib, beNat_beBytes, u64_of_lt _ hn64, hpos, if_true, hrt]
    · intro _ t' hdec
      rw [hrt] at hdec; cases hdec
      exact ⟨⟨q, hq, hq0⟩, hmd⟩
  | none =>
    refine ⟨tok, [0], beBytes (t.value.getD 0).natAbs, by simp [payloadItem, hm], ?_, ?_⟩
    · have h0 : ¬ (u64 (beNat [0]) > 0) := by decide
      simp only [itemContrib, h0, if_false, beNat_beBytes, mdNonce, hm, nftKey_nonce0, hq, Option.getD_some]
      split
      · omega
      · rfl
    · intro h; exact absurd h (by decide)

theorem getElem?_pre3 (pre : List Bytes) (a b d : Bytes) (rest : List Bytes) :
    (pre ++ (a :: b :: d :: rest))[pre.length]? = some a ∧ (pre ++ (a :: b :: d :: rest))[pre.length + 1]? = some b ∧
    (pre ++ (a :: b :: d :: rest))[pre.length + 2]? = some d := by
  refine ⟨?_, ?_, ?_⟩
  · rw [List.getElem?_append_right (Nat.le_refl _)]; simp
  · rw [List.getElem?_append_right (by omega)]; simp
  · rw [List.getElem?_append_right (by omega)]; simp

/-- read back the way the destination loop reads it, the emitted payload is worth exactly what the returned tokens carry,
    and every item in it is of the form the destination needs -/
theorem loopContrib_payload : ∀ (toks : List (Bytes × Token)) (pre rest : List Bytes),
    (∀ p ∈ toks, TokOK p.2) → (∀ p ∈ toks, p.2.md.isSome = true → (encToken p.2).length < two63) → ∀ k,
    loopContrib (pre ++ payloadOf toks ++ rest) toks.length pre.length k = toksContrib toks k ∧
    loopOK (pre ++ payloadOf toks ++ rest) toks.length pre.length := by
  intro toks
  induction toks with
  | nil => intro pre rest _ _ k; simp [loopContrib, toksContrib, loopOK]
  | cons p ps ih =>
    intro pre rest hok hlen k
    obtain ⟨a, b, d, hitem, hc, hio⟩ := itemContrib_payload p (hok p List.mem_cons_self) (hlen p List.mem_cons_self) k
    have hargs : pre ++ payloadOf (p :: ps) ++ rest = pre ++ (a :: b :: d :: (payloadOf ps ++ rest)) := by
      simp [payloadOf, List.flatMap_cons, hitem]
    have hargs2 : pre ++ payloadOf (p :: ps) ++ rest = (pre ++ [a, b, d]) ++ payloadOf ps ++ rest := by
      simp [payloadOf, List.flatMap_cons, hitem]
    obtain ⟨g0, g1, g2⟩ := getElem?_pre3 pre a b d (payloadOf ps ++ rest)
    obtain ⟨ih1, ih2⟩ := ih (pre ++ [a, b, d]) rest (fun p hp => hok p (List.mem_cons_of_mem _ hp))
      (fun p hp => hlen p (List.mem_cons_of_mem _ hp)) k
    have hl3 : (pre ++ [a, b, d]).length = pre.length + 3 := by simp
    rw [hl3, ← hargs2] at ih1 ih2
    constructor
    · simp only [List.length_cons, loopContrib]
      rw [ih1, toksContrib_cons, ← hc]
      rw [hargs] at *
      simp only [g0, g1, g2]
    · simp only [List.length_cons, loopOK]
      refine ⟨?_, ih2⟩
      intro nb pl h1 h2
      rw [hargs] at h1 h2
      rw [g1] at h1; rw [g2] at h2
      cases h1; cases h2
      exact hio

end Esdt

namespace Esdt

/-! ### whole calls -/

/-- sender side of MultiESDTNFTTransfer: destination on the same shard — per-key sums unchanged; on another shard — the
    shard's sums fall by exactly what the emitted message is worth when read the way the destination loop reads it -/
theorem multiTransferSender_supply (env : Env) (c : Call) (ctx : Ctx) (hI : SInv ctx.accts)
    (hs : present env.nshards env.self c.caller = true)
    (hdsys : ∀ d, c.args[0]? = some d → d ≠ systemAccountAddress) :
    Post (multiTransferSender env c) ctx (fun out ctx' => SInv ctx'.accts ∧ ∃ dst, c.args[0]? = some dst ∧ dst ≠ c.caller ∧
      (env.self = shardOf env.nshards dst → ∀ k, balAt ctx'.accts k = balAt ctx.accts k) ∧
      (env.self ≠ shardOf env.nshards dst → ∃ callArgs a0 tr, out.outAccts = [{ addr := dst, transfers := [tr] }] ∧
         tr.data = encodeCall fnMultiESDTNFTTransfer callArgs ∧ callArgs[0]? = some a0 ∧
         loopOK callArgs (u64 (beNat a0)) 1 ∧
         ∀ k, balAt ctx'.accts k + loopContrib callArgs (u64 (beNat a0)) 1 k = balAt ctx.accts k)) := by
  unfold multiTransferSender
  simp only [hs, Bool.not_true, Bool.false_eq_true, if_false]
  xsteps
  rename_i dst h0 _ hnc _ a1 h1 _ _ _ _
  have hne : dst ≠ c.caller := of_decide_eq_false hnc
  have hds := hdsys dst h0
  by_cases hl : env.self = shardOf env.nshards dst
  · simp only [hl, if_true, decide_true, Bool.not_true, Bool.false_eq_true, if_false]
    xsteps
    apply Post.mono (RO.tick .l ctx)
    intro _ c1 h1'
    have hI1 : SInv c1.accts := by rw [h1']; exact hI
    xsteps
    apply Post.mono (multiSenderLoop_supply env c true dst _ hne hds _ _ c1 hI1)
    intro r c2 ⟨hI2, hb2, _, _⟩
    xsteps
    apply Post.mono (RO.tick .s c2)
    intro _ c3 h3
    xsteps
    apply Post.mono (comp_multiPayloadLoop RO.comp env _ _ c3)
    intro r2 c4 h4
    have hfin : SInv c4.accts ∧ ∃ dst', c.args[0]? = some dst' ∧ dst' ≠ c.caller ∧
        (env.self = shardOf env.nshards dst' → ∀ k, balAt c4.accts k = balAt ctx.accts k) := by
      refine ⟨by rw [h4, h3]; exact hI2, dst, h0, hne, fun _ k => ?_⟩
      have := hb2 k
      simp only [if_true] at this
      rw [h4, h3, ← h1']; omega
    obtain ⟨hf1, dst', hf2, hf3, hf4⟩ := hfin
    have fin : ∀ (out : VMOutput), SInv c4.accts ∧ ∃ dst_1, c.args[0]? = some dst_1 ∧ dst_1 ≠ c.caller ∧
        (shardOf env.nshards dst = shardOf env.nshards dst_1 → ∀ k, balAt c4.accts k = balAt ctx.accts k) ∧
        (shardOf env.nshards dst ≠ shardOf env.nshards dst_1 → ∃ callArgs a0 tr,
          out.outAccts = [{ addr := dst_1, transfers := [tr] }] ∧
          tr.data = encodeCall fnMultiESDTNFTTransfer callArgs ∧ callArgs[0]? = some a0 ∧
          loopOK callArgs (u64 (beNat a0)) 1 ∧
          ∀ k, balAt c4.accts k + loopContrib callArgs (u64 (beNat a0)) 1 k = balAt ctx.accts k) := by
      intro out
      rw [h0] at hf2; cases hf2
      exact ⟨hf1, dst, h0, hne, fun _ => hf4 hl, fun h => absurd rfl h⟩
    split
    · xsteps
      exact Post.pure (fin _)
    · exact Post.pure (fin _)
  · simp only [hl, if_false, decide_false, Bool.not_false, if_true]
    xsteps
    apply Post.mono (multiSenderLoop_supply env c false dst _ hne hds _ _ ctx hI)
    intro r c2 ⟨hI2, hb2, hok2, hlen2⟩
    xsteps
    apply Post.mono (multiPayloadLoop_shape env _ _ c2 (hok2 rfl))
    intro r2 c4 ⟨h4, hshape, hlens⟩
    apply Post.pure
    refine ⟨by rw [h4]; exact hI2, dst, h0, hne, fun h => absurd h hl, fun _ => ?_⟩
    obtain ⟨toks, logs⟩ := r
    obtain ⟨pl, gr⟩ := r2
    simp only at hshape hlens hlen2 hb2 hok2 ⊢
    have hlt : toks.length < two64 := by rw [hlen2]; exact u64_lt _
    have hn : u64 (beNat (beBytes toks.length)) = toks.length := by rw [beNat_beBytes, u64_of_lt _ hlt]
    refine ⟨_, beBytes toks.length, _, rfl, rfl, by simp, ?_, fun k => ?_⟩
    · rw [hn, hshape]
      have h1 := (loopContrib_payload toks [beBytes toks.length] (if c.args.length > u64 (u64 (u64 (beNat a1) * 3) + 2) then
            List.drop (u64 (u64 (u64 (beNat a1) * 3) + 2)) c.args else []) (hok2 trivial) hlens []).2
      exact h1
    · rw [hn, hshape]
      have h1 := (loopContrib_payload toks [beBytes toks.length] (if c.args.length > u64 (u64 (u64 (beNat a1) * 3) + 2) then
            List.drop (u64 (u64 (u64 (beNat a1) * 3) + 2)) c.args else []) (hok2 trivial) hlens k).1
      have h2 := hb2 k
      simp only [Bool.false_eq_true, if_false] at h2
      have e : ∀ R : List Bytes, [beBytes toks.length] ++ payloadOf toks ++ R = (beBytes toks.length :: payloadOf toks) ++ R :=
        fun _ => rfl
      rw [e] at h1
      simp only [List.length_singleton] at h1
      rw [h4, h1]
      exact h2

theorem multiTransfer_sender_path (env : Env) (c : Call) (ctx : Ctx) (hself : c.caller = c.rcv) :
    Post (multiTransfer env c) ctx (fun out ctx' => multiTransferSender env c ctx = .ok (out, ctx')) := by
  unfold multiTransfer checkBasic
  simp only [hself, if_true]
  xsteps
  exact Post.of_forall (fun _ _ h => h)

/-- destination side (a delivery, or a refund on the origin shard): every item is credited as `loopContrib` reads it -/
theorem multiTransfer_dest_supply (env : Env) (c : Call) (ctx : Ctx) (hI : SInv ctx.accts) (hne : c.caller ≠ c.rcv)
    (hrsys : c.rcv ≠ systemAccountAddress) (a0 : Bytes) (h0 : c.args[0]? = some a0)
    (hok : loopOK c.args (u64 (beNat a0)) 1) :
    Post (multiTransfer env c) ctx (fun _ ctx' => SInv ctx'.accts ∧
      ∀ k, balAt ctx'.accts k = balAt ctx.accts k + loopContrib c.args (u64 (beNat a0)) 1 k) := by
  unfold multiTransfer checkBasic
  simp only [hne, if_false]
  xsteps
  rename_i a0' h0' _ _ _
  rw [h0] at h0'; cases h0'
  apply Post.mono (multiDestLoop_supply env c _ hrsys _ _ ctx hI hok)
  intro _ c1 h1
  split
  · xsteps
    exact Post.pure h1
  · exact Post.pure h1

end Esdt

namespace Esdt

/-! ### the world -/

structure MMsg where
  caller : Bytes
  rcv : Bytes
  args : List Bytes
  refund : Bool

structure MWorld where
  shards : List Accts
  inflight : List MMsg

/-- what a message in flight is worth under storage key `k`: its items, read the way the destination loop reads them -/
def MMsg.contrib (m : MMsg) (k : Bytes) : Int :=
  match m.args[0]? with
  | some a0 => loopContrib m.args (u64 (beNat a0)) 1 k
  | none => 0

def mflightAt (ms : List MMsg) (k : Bytes) : Int := (ms.map (·.contrib k)).sum

def msupply (w : MWorld) (k : Bytes) : Int := (w.shards.map (balAt · k)).sum + mflightAt w.inflight k

def mDeliveryCall (m : MMsg) : Call :=
  { fn := fnMultiESDTNFTTransfer, caller := m.caller, rcv := m.rcv, args := m.args }
def mRefundCall (m : MMsg) : Call :=
  { fn := fnMultiESDTNFTTransfer, caller := m.rcv, rcv := m.caller, args := m.args, callType := 2, rae := true }

/-- the message a successful sender-side call leaves for another shard, read off its output transfer with the
    call-arguments parser -/
def mmsgOf (c : Call) (out : VMOutput) : Option MMsg :=
  match out.outAccts with
  | [oa] =>
    match oa.transfers with
    | [tr] =>
      match parseCall tr.data with
      | .ok (_, args) => some { caller := c.caller, rcv := oa.addr, args := args, refund := false }
      | _ => none
    | _ => none
  | _ => none

def runMulti (e : Env) (shards : List Accts) (s : Nat) (c : Call) : Option (VMOutput × Accts) :=
  match shards[s]? with
  | none => none
  | some A =>
    match multiTransfer { e with self := s } c { accts := A } with
    | .ok (out, ctx') => some (out, ctx'.accts)
    | _ => none

def multiStep (e : Env) (w : MWorld) : NStep → MWorld
  | .user c =>
    let s := shardOf e.nshards c.caller
    match runMulti e w.shards s c with
    | none => w
    | some (out, A') =>
      let shards' := w.shards.set s A'
      match c.args[0]? with
      | some dst =>
        if s = shardOf e.nshards dst then { w with shards := shards' }
        else { shards := shards', inflight := w.inflight ++ (mmsgOf c out).toList }
      | none => { w with shards := shards' }
  | .deliver i =>
    match w.inflight[i]? with
    | none => w
    | some m =>
      if m.refund then w else
      match runMulti e w.shards (shardOf e.nshards m.rcv) (mDeliveryCall m) with
      | some (_, A') => { shards := w.shards.set (shardOf e.nshards m.rcv) A', inflight := w.inflight.eraseIdx i }
      | none => { w with inflight := w.inflight.set i { m with refund := true } }
  | .refund i =>
    match w.inflight[i]? with
    | none => w
    | some m =>
      if !m.refund then w else
      match runMulti e w.shards (shardOf e.nshards m.caller) (mRefundCall m) with
      | some (_, A') => { shards := w.shards.set (shardOf e.nshards m.caller) A', inflight := w.inflight.eraseIdx i }
      | none => w

def multiRun (e : Env) : List NStep → MWorld → MWorld
  | [], w => w
  | s :: rest, w => multiRun e rest (multiStep e w s)

structure MMsgOK (e : Env) (m : MMsg) : Prop where
  notSys : m.caller ≠ systemAccountAddress
  cross : present e.nshards (shardOf e.nshards m.caller) m.rcv = false
  items : ∃ a0, m.args[0]? = some a0 ∧ loopOK m.args (u64 (beNat a0)) 1

structure MWorldInv (e : Env) (w : MWorld) : Prop where
  shards : ∀ A ∈ w.shards, SInv A
  msgs : ∀ m ∈ w.inflight, MMsgOK e m

/-- transactions considered: the sender-side form (caller = receiver, destination in argument 0), not from the system
    account, destination not the system account -/
def MultiStepOK : NStep → Prop
  | .user c => c.caller = c.rcv ∧ c.caller ≠ systemAccountAddress ∧ ∀ d, c.args[0]? = some d → d ≠ systemAccountAddress
  | _ => True

theorem runMulti_some {e : Env} {shards : List Accts} {s : Nat} {c : Call} {out : VMOutput} {A' : Accts}
    (h : runMulti e shards s c = some (out, A')) :
    ∃ A ctx', shards[s]? = some A ∧ multiTransfer { e with self := s } c { accts := A } = .ok (out, ctx') ∧
      ctx'.accts = A' :=
  runShard_some (fn := multiTransfer) h

/-! ### the world as a wire -/

def multiWire : Wire MMsg where
  fn := multiTransfer
  emit e c out :=
    match c.args[0]? with
    | some dst => if shardOf e.nshards c.caller = shardOf e.nshards dst then [] else (mmsgOf c out).toList
    | none => []
  refund := (·.refund)
  bounce m := { m with refund := true }
  dcall := mDeliveryCall
  rcall := mRefundCall

theorem multiStep_move (e : Env) (w : MWorld) (st : NStep) :
    multiWire.Move e w.shards w.inflight st (multiStep e w st).shards (multiStep e w st).inflight := by
  cases st with
  | user c =>
    simp only [multiStep]
    cases hr : runMulti e w.shards (shardOf e.nshards c.caller) c with
    | none => exact .stay
    | some p =>
      obtain ⟨out, A'⟩ := p
      obtain ⟨A, ctx', hA, hex, rfl⟩ := runMulti_some hr
      have hmv := Wire.Move.sent (W := multiWire) (M := w.inflight) ⟨hA, hex⟩
      simp only []
      cases h0 : c.args[0]? with
      | none =>
        have he : multiWire.emit e c out = [] := by simp only [multiWire, h0]
        rw [he, List.append_nil] at hmv
        exact hmv
      | some dst =>
        simp only []
        by_cases hx : shardOf e.nshards c.caller = shardOf e.nshards dst
        · have he : multiWire.emit e c out = [] := by simp only [multiWire, h0, if_pos hx]
          rw [he, List.append_nil] at hmv
          rw [if_pos hx]
          exact hmv
        · have he : multiWire.emit e c out = (mmsgOf c out).toList := by simp only [multiWire, h0, if_neg hx]
          rw [he] at hmv
          rw [if_neg hx]
          exact hmv
  | deliver i =>
    simp only [multiStep]
    cases hm : w.inflight[i]? with
    | none => exact .stay
    | some m =>
      simp only []
      cases hrf : m.refund
      · simp only [Bool.false_eq_true, if_false]
        cases hr : runMulti e w.shards (shardOf e.nshards m.rcv) (mDeliveryCall m) with
        | none => exact .bounced hm hrf
        | some p =>
          obtain ⟨out, A'⟩ := p
          obtain ⟨A, ctx', hA, hex, rfl⟩ := runMulti_some hr
          exact .arrived hm (.deliver hrf) ⟨hA, hex⟩
      · exact .stay
  | refund i =>
    simp only [multiStep]
    cases hm : w.inflight[i]? with
    | none => exact .stay
    | some m =>
      simp only []
      cases hrf : m.refund
      · exact .stay
      · simp only [Bool.not_true, Bool.false_eq_true, if_false]
        cases hr : runMulti e w.shards (shardOf e.nshards m.caller) (mRefundCall m) with
        | none => exact .stay
        | some p =>
          obtain ⟨out, A'⟩ := p
          obtain ⟨A, ctx', hA, hex, rfl⟩ := runMulti_some hr
          exact .arrived hm (.refund hrf) ⟨hA, hex⟩

theorem MMsgOK.ne {e : Env} {m : MMsg} (h : MMsgOK e m) : m.caller ≠ m.rcv := by
  intro he
  have := h.cross
  rw [← he, present_self] at this
  cases this

/-- the call a message arrives as: between two different accounts, to an account that is not the system account, with the
    message's arguments -/
theorem MMsgOK.leg {e : Env} {m : MMsg} {st : NStep} {i : Nat} {c : Call} (h : MMsgOK e m) (hl : multiWire.Leg m st i c) :
    c.caller ≠ c.rcv ∧ c.rcv ≠ systemAccountAddress ∧ c.args = m.args := by
  cases hl with
  | refund => exact ⟨fun h' => h.ne h'.symm, h.notSys, rfl⟩
  | deliver =>
    have h2 := h.cross
    simp only [present, Bool.or_eq_false_iff, beq_eq_false_iff_ne, ne_eq] at h2
    exact ⟨h.ne, h2.1, rfl⟩

/-- the message a successful cross-shard sender call leaves, read off its output transfer -/
theorem mmsgOf_emitted {c : Call} {out : VMOutput} {dst : Bytes} {tr : OutTransfer} {callArgs : List Bytes}
    (hout : out.outAccts = [{ addr := dst, transfers := [tr] }])
    (hdata : tr.data = encodeCall fnMultiESDTNFTTransfer callArgs) :
    mmsgOf c out = some { caller := c.caller, rcv := dst, args := callArgs, refund := false } := by
  have hparse : parseCall tr.data = .ok (fnMultiESDTNFTTransfer, callArgs) := by
    rw [hdata, parseCall_encodeCall _ _ (by decide) (by decide)]
  simp only [mmsgOf, hout, hparse]

/-- one step of the multi-transfer world keeps the invariant and the supply of every storage key -/
theorem multiStep_supply (e : Env) (w : MWorld) (st : NStep) (hI : MWorldInv e w) (hok : MultiStepOK st) (k : Bytes) :
    msupply (multiStep e w st) k = msupply w k ∧ MWorldInv e (multiStep e w st) := by
  have hmv := multiStep_move e w st
  -- a user transaction: the shard's sums stay (destination on the same shard) or fall by what the message is worth
  have sent : ∀ {c out A ctx'}, st = .user c → Ran multiWire.fn e w.shards (shardOf e.nshards c.caller) c out A ctx' →
      SInv ctx'.accts ∧ (∀ m ∈ multiWire.emit e c out, MMsgOK e m) ∧
        balAt ctx'.accts k + ((multiWire.emit e c out).map (·.contrib k)).sum = balAt A k := by
    intro c out A ctx' hst hr
    subst hst
    obtain ⟨hself, hsys, hdsys⟩ := hok
    let env : Env := { e with self := shardOf e.nshards c.caller }
    have hsend := (multiTransfer_sender_path env c { accts := A } hself).elim hr.run
    obtain ⟨hIA', dst, h0, hne, hsame, hcross⟩ :=
      (multiTransferSender_supply env c { accts := A } (hI.shards A hr.mem) (present_self _ _) hdsys).elim hsend
    refine ⟨hIA', ?_⟩
    by_cases hx : shardOf e.nshards c.caller = shardOf e.nshards dst
    · have he : multiWire.emit e c out = [] := by simp only [multiWire, h0, if_pos hx]
      rw [he]
      exact ⟨fun _ hm => (List.not_mem_nil hm).elim, by rw [hsame hx k]; exact Int.add_zero _⟩
    · obtain ⟨callArgs, a0, tr, hout, hdata, ha0, hlok, hb⟩ := hcross hx
      have he : multiWire.emit e c out = [{ caller := c.caller, rcv := dst, args := callArgs, refund := false }] := by
        simp only [multiWire, h0, if_neg hx, mmsgOf_emitted hout hdata, Option.toList]
      rw [he]
      refine ⟨fun m' hm' => ?_, by simpa [MMsg.contrib, ha0] using hb k⟩
      rw [List.mem_singleton.mp hm']
      refine ⟨hsys, ?_, a0, ha0, hlok⟩
      simp only [present, Bool.or_eq_false_iff, beq_eq_false_iff_ne, ne_eq]
      exact ⟨hdsys _ h0, fun e' => hx e'.symm⟩
  -- a delivery or a refund: every item is credited as `loopContrib` reads it
  have arrived : ∀ {i m c out A ctx'}, m ∈ w.inflight → multiWire.Leg m st i c →
      Ran multiWire.fn e w.shards (shardOf e.nshards c.rcv) c out A ctx' →
      SInv ctx'.accts ∧ balAt ctx'.accts k = balAt A k + m.contrib k := by
    intro i m c out A ctx' hm hl hr
    obtain ⟨a0, ha0, hlok⟩ := (hI.msgs m hm).items
    obtain ⟨hne, hrs, hargs⟩ := (hI.msgs m hm).leg hl
    obtain ⟨hIA', hb⟩ := (multiTransfer_dest_supply _ c { accts := A } (hI.shards A hr.mem) hne hrs a0 (hargs ▸ ha0)
      (hargs ▸ hlok)).elim hr.run
    exact ⟨hIA', by rw [hb k, hargs]; simp only [MMsg.contrib, ha0]⟩
  obtain ⟨h1, h2⟩ := hmv.all hI.shards hI.msgs (fun hs hr => ⟨(sent hs hr).1, (sent hs hr).2.1⟩)
    (fun hm hl hr => (arrived hm hl hr).1)
    (fun m hm _ => ⟨(hI.msgs m hm).notSys, (hI.msgs m hm).cross, (hI.msgs m hm).items⟩)
  exact ⟨hmv.sum (balAt · k) (·.contrib k) (fun hs hr _ => (sent hs hr).2.2) (fun hm hl hr _ => (arrived hm hl hr).2)
    (fun _ _ => rfl), h1, h2⟩

theorem multiRun_supply (e : Env) : ∀ (steps : List NStep) (w : MWorld), MWorldInv e w → (∀ s ∈ steps, MultiStepOK s) →
    ∀ k, msupply (multiRun e steps w) k = msupply w k ∧ MWorldInv e (multiRun e steps w)
  | [], _, hI, _, _ => ⟨rfl, hI⟩
  | s :: rest, w, hI, hok, k => by
    obtain ⟨h1, hI1⟩ := multiStep_supply e w s hI (hok s List.mem_cons_self) k
    obtain ⟨h2, hI2⟩ := multiRun_supply e rest (multiStep e w s) hI1 (fun s' hs' => hok s' (List.mem_cons_of_mem _ hs')) k
    exact ⟨h2.trans h1, hI2⟩

end Esdt
