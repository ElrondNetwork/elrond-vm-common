/-
  Proofs/MetaHistory.lean — C08, "no other function rewrites metadata": along any sequence of the supply operations
  (Proofs/SupplyHistory.lean) every copy of an NFT stored under its key keeps its metadata.  (ESDTNFTAddURI and
  ESDTNFTUpdateAttributes are the two functions that change metadata — `addURI_exact`, `updateAttributes_exact`; the
  transfer functions: Proofs/NetworkMeta.lean, NetworkMultiMeta.lean.)
-/
import Proofs.SupplyHistory
import Proofs.NetworkMultiMeta
namespace Esdt

theorem allMd_write_nil {m0 : MetaData} {k : Bytes} {A : Accts} (a k1 : Bytes) (hA : AllMd m0 k A) :
    AllMd m0 k (A.write a k1 []) := by
  intro a2 t0 hne hdec
  rw [Accts.read_write] at hne hdec
  split at hne
  · exact absurd rfl hne
  · rename_i he
    rw [if_neg he] at hdec
    exact hA a2 t0 hne hdec

/-- what is assumed of an operation for the NFT stored under key `k`: `k` is an NFT key, not the fungible key of the
    token a fungible operation names (token identifiers do not alias), and a create does not issue a nonce whose key is
    `k` (nonces are fresh: C07) -/
def MStepOK (k : Bytes) (s : SStep) : Prop :=
  ((s.op = .mint ∨ s.op = .localBurn ∨ s.op = .burn ∨ s.op = .wipe ∨ s.op = .freeze ∨ s.op = .unfreeze) →
    ∀ tok', s.c.args[0]? = some tok' → esdtKeyPrefix ++ tok' ≠ k) ∧
  (s.op = .create → ∀ tok' n, s.c.args[0]? = some tok' → nftKey (esdtKeyPrefix ++ tok') n ≠ k)

/-- one supply operation keeps the metadata of every entry stored under `k` -/
theorem meta_step (m0 : MetaData) (k : Bytes) (op : SupplyOp) (env : Env) (c : Call) (A : Accts) (out : VMOutput)
    (ctx' : Ctx) (hk : TokKey k) (hI : SInv A) (hM : AllMd m0 k A) (hok : MStepOK k ⟨op, env, c⟩)
    (h : op.run env c { accts := A } = .ok (out, ctx')) : AllMd m0 k ctx'.accts := by
  obtain ⟨hfung, hcreate⟩ := hok
  simp only at hfung hcreate
  have one : ∀ {tok' : Bytes} {t : Token} {v d : Int}, c.args[0]? = some tok' →
      OneWrite A ctx'.accts c.caller (esdtKeyPrefix ++ tok') t v d →
      (∀ tok', c.args[0]? = some tok' → esdtKeyPrefix ++ tok' ≠ k) → AllMd m0 k ctx'.accts := by
    intro tok' t v d h0 hw hkk
    rw [hw.written]; exact allMd_write_other _ _ _ hM (hkk tok' h0)
  have nft : ∀ {tok' : Bytes} {n : Nat} {t : Token} {v v' : Int},
      NftWrite A ctx'.accts c.caller (esdtKeyPrefix ++ tok') n t v v' → Short ctx'.accts →
      (∀ m, t.md = some m → m.nonce = 0 ∨ m.nonce = n) → AllMd m0 k ctx'.accts := by
    intro tok' n t v v' hw hS' hnon
    have hnonce : mdNonce t = n := hw.ownNonce hI.mdpos hnon
    have hl := hS' c.caller (nftKey (esdtKeyPrefix ++ tok') (mdNonce t))
    rw [hw.written, Accts.read_write, if_pos ⟨rfl, rfl⟩] at hl
    rw [hw.written]
    apply allMd_write_nft _ _ _ hM ((decToken_num _ _ hw.old).withValue _) hl
    intro hkk
    rw [hnonce] at hkk
    exact hM c.caller t (by rw [← hkk]; exact hw.present) (by rw [← hkk]; exact hw.old)
  cases op with
  | mint =>
    obtain ⟨tok', _, t, v, h0, _, hw, _⟩ := (localMint_effect env c { accts := A }).elim h
    exact one h0 hw (hfung (Or.inl rfl))
  | localBurn =>
    obtain ⟨tok', _, t, v, h0, _, hw, _⟩ := (localBurn_effect env c { accts := A }).elim h
    exact one h0 hw (hfung (Or.inr (Or.inl rfl)))
  | burn =>
    obtain ⟨tok', _, t, v, h0, _, hw, _⟩ := (esdtBurn_effect env c { accts := A }).elim h
    exact one h0 hw (hfung (Or.inr (Or.inr (Or.inl rfl))))
  | addQty =>
    have hS' : Short ctx'.accts := (short_runFn .nftAddQuantity env c nofun { accts := A } hI.short).elim h
    obtain ⟨tok', nb, qb, t, v, h0, h1, _, _, hw, _⟩ := (addQuantity_effect env c { accts := A }).elim h
    exact nft hw hS' (fun m hm => (addQuantity_nonce env c { accts := A }).elim h tok' nb t m h0 h1 hw.old hm)
  | nftBurn =>
    have hS' : Short ctx'.accts := (short_runFn .nftBurn env c nofun { accts := A } hI.short).elim h
    obtain ⟨tok', nb, qb, t, v, h0, h1, _, _, _, hw, _⟩ := (nftBurn_effect env c { accts := A }).elim h
    exact nft hw hS' (fun m hm => (nftBurn_nonce env c { accts := A }).elim h tok' nb t m h0 h1 hw.old hm)
  | wipe =>
    obtain ⟨tok', t, h0, _, _, _, hw⟩ := (wipe_effect env c { accts := A }).elim h
    simp only at hw
    rw [hw]; exact allMd_write_nil _ _ hM
  | freeze =>
    obtain ⟨tok', t, h0, _, _, _, hw⟩ := (toggleFreeze_effect .freeze (by decide) env c { accts := A }).elim h
    simp only at hw
    rw [hw]; exact allMd_write_other _ _ _ hM (hfung (Or.inr (Or.inr (Or.inr (Or.inr (Or.inl rfl))))) tok' h0)
  | unfreeze =>
    obtain ⟨tok', t, h0, _, _, _, hw⟩ := (toggleFreeze_effect .unfreeze (by decide) env c { accts := A }).elim h
    simp only at hw
    rw [hw]; exact allMd_write_other _ _ _ hM (hfung (Or.inr (Or.inr (Or.inr (Or.inr (Or.inr rfl))))) tok' h0)
  | create =>
    obtain ⟨tok', qb, name, roy, hash, attrs, n, A1, h0, _, _, _, _, _, _, _, _, _, hA1, hw⟩ :=
      (nftCreate_effect env c { accts := A }).elim h
    simp only at hA1 hw
    rw [hw, hA1]
    exact allMd_write_other _ _ _ (allMd_write_other _ _ _ hM (hcreate rfl tok' n h0)) (tokKey_not_nonce tok' k hk)

end Esdt

namespace Esdt

theorem meta_history_run (m0 : MetaData) (k : Bytes) (hk : TokKey k) : ∀ (steps : List SStep) (A : Accts), SInv A →
    SStepsOK steps A → (∀ s ∈ steps, MStepOK k s) → AllMd m0 k A → AllMd m0 k (srun steps A).1 :=
  fun steps A hI hok hms hM =>
    (srun_inv (fun s A' out ctx' hI' hM' hs he => meta_step m0 k s.op s.env s.c A' out ctx' hk hI' hM' hs he)
      steps A hI hM hok hms).2

end Esdt
