/-
  Proofs/Hex.lean — hex round trip, '@'-tokenisation of encoded calls.
-/
import Model.Parsers
namespace Esdt

theorem hexVal_hexDigit : ∀ n : Fin 16, hexVal (hexDigit n.val) = some n.val := by decide

theorem hexVal_hexDigit' (n : Nat) (h : n < 16) : hexVal (hexDigit n) = some n :=
  hexVal_hexDigit ⟨n, h⟩

theorem hexDigit_ne_at : ∀ n : Fin 16, hexDigit n.val ≠ at' := by decide

theorem hexDigit_ne_at' (n : Nat) (h : n < 16) : hexDigit n ≠ at' := hexDigit_ne_at ⟨n, h⟩

theorem byte_recompose (b : UInt8) : UInt8.ofNat (b.toNat / 16 * 16 + b.toNat % 16) = b := by
  rw [Nat.div_add_mod']
  exact UInt8.ofNat_toNat

theorem byte_div_lt (b : UInt8) : b.toNat / 16 < 16 := by
  have := b.toNat_lt
  omega

@[simp] theorem hexDecode_hexEncode (b : Bytes) : hexDecode (hexEncode b) = some b := by
  induction b with
  | nil => rfl
  | cons x rest ih =>
    simp only [hexEncode, hexDecode]
    rw [hexVal_hexDigit' _ (byte_div_lt x), hexVal_hexDigit' _ (Nat.mod_lt _ (by decide))]
    simp only [ih, byte_recompose]

/-- no '@' inside a hex-encoded argument -/
theorem at_not_mem_hexEncode (b : Bytes) : at' ∉ hexEncode b := by
  induction b with
  | nil => simp [hexEncode]
  | cons x rest ih =>
    simp only [hexEncode, List.mem_cons, not_or]
    exact ⟨fun h => hexDigit_ne_at' _ (byte_div_lt x) h.symm,
           fun h => hexDigit_ne_at' _ (Nat.mod_lt _ (by decide)) h.symm, ih⟩

theorem splitAt_ne_nil (s : Bytes) : splitAt s ≠ [] := by
  induction s with
  | nil => simp [splitAt]
  | cons c rest ih =>
    simp only [splitAt]
    split
    · simp
    · split <;> simp

/-- a separator-free prefix joins the first token of what follows -/
theorem splitAt_append (p : Bytes) (hp : at' ∉ p) (s t : Bytes) (ts : List Bytes) (hs : splitAt s = t :: ts) :
    splitAt (p ++ s) = (p ++ t) :: ts := by
  induction p with
  | nil => simpa using hs
  | cons c p ih =>
    have hc : c ≠ at' := fun h => hp (by simp [h])
    have hp' : at' ∉ p := fun h => hp (by simp [h])
    simp only [List.cons_append, splitAt, hc, if_false, ih hp']

def argsTail (args : List Bytes) : Bytes := args.flatMap fun a => at' :: hexEncode a

theorem splitAt_tokens (p : Bytes) (hp : at' ∉ p) (args : List Bytes) :
    splitAt (p ++ argsTail args) = p :: args.map hexEncode := by
  induction args generalizing p with
  | nil => simpa [argsTail] using splitAt_append p hp [] [] [] rfl
  | cons a rest ih =>
    have hs : splitAt (argsTail (a :: rest)) = [] :: hexEncode a :: rest.map hexEncode := by
      rw [← ih (hexEncode a) (at_not_mem_hexEncode a)]
      simp [argsTail, splitAt]
    simpa using splitAt_append p hp _ _ _ hs

theorem decodeAll_map_hexEncode (args : List Bytes) : decodeAll (args.map hexEncode) = some args := by
  induction args with
  | nil => rfl
  | cons a rest ih => simp [decodeAll, ih]

/-- C12 / C10: parsing what the builder (and the built-ins' own encoder) produced gives back
    exactly the function name and the arguments. -/
theorem parseCall_encodeCall (fn : Bytes) (args : List Bytes) (hne : fn ≠ []) (hat : at' ∉ fn) :
    parseCall (encodeCall fn args) = .ok (fn, args) := by
  have h : splitAt (encodeCall fn args) = fn :: args.map hexEncode := splitAt_tokens fn hat args
  simp [parseCall, tokenize, h, hne, decodeAll_map_hexEncode]

end Esdt
