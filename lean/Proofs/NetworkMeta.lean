/-
  Proofs/NetworkMeta.lean — C08 at history level: in the NFT world (Proofs/NetworkNFT.lean) every copy of an NFT — every
  entry stored under its key in any account of any shard, and every payload in flight for it — carries the same metadata,
  along any history of transfers, deliveries and refunds.
-/
import Proofs.NetworkNFT
namespace Esdt

/-- every non-empty entry under key `k` has metadata `m0` -/
def AllMd (m0 : MetaData) (k : Bytes) (A : Accts) : Prop :=
  ∀ a t, A.read a k ≠ [] → decToken (A.read a k) = some t → t.md = some m0

/-- … and so has every payload in flight for that key -/
def MsgMd (m0 : MetaData) (k : Bytes) (m : NMsg) : Prop :=
  m.key = k → ∀ t, decToken m.payload = some t → t.md = some m0

theorem allMd_write_nft {m0 : MetaData} {k : Bytes} {A : Accts} (a k1 : Bytes) (t' : Token) (hA : AllMd m0 k A)
    (hn : NumOK t') (hl : (nftStoredForm t').length < two63) (hmd : k1 = k → t'.md = some m0) :
    AllMd m0 k (A.write a k1 (nftStoredForm t')) := by
  intro a2 t0 hne hdec
  rw [Accts.read_write] at hne hdec
  split at hne
  · rename_i he
    rw [if_pos he] at hdec
    rcases nftStoredForm_cases' t' with ⟨he0, _⟩ | he1
    · exact absurd he0 hne
    · rw [he1] at hdec hl
      rw [roundtrip_of_length t' hn hl] at hdec
      cases hdec
      exact hmd he.2
  · rename_i he
    rw [if_neg he] at hdec
    exact hA a2 t0 hne hdec

/-- sender side, destination on another shard -/
theorem md_user_cross (m0 : MetaData) (k : Bytes) (env : Env) (c : Call) (A : Accts) (out : VMOutput) (ctx' : Ctx)
    (hI : SInv A) (hM : AllMd m0 k A)
    (hs : present env.nshards env.self c.caller = true)
    (hx : ∀ d, c.args[3]? = some d → env.self ≠ shardOf env.nshards d)
    (h : esdtNFTTransferSender env c { accts := A } = .ok (out, ctx')) (hS' : Short ctx'.accts) :
    AllMd m0 k ctx'.accts ∧ ∀ m, msgOf c out = some m → MsgMd m0 k m := by
  obtain ⟨tok, nb, qb, dst, t, v, h0, h1, h2, h3, hn0, hle, hw, hnon, hlen, tr, hout, hdata⟩ :=
    (nftTransferSender_crossShard_effect_len env c { accts := A } hs hx).elim h
  obtain ⟨rest, hargs⟩ := args_cons4 h0 h1 h2 h3
  have hnum : NumOK t := decToken_num _ _ hw.old
  have hnonce : mdNonce t = u64 (beNat nb) := hw.ownNonce hI.mdpos hnon
  -- the entry read is under the key it is written back to; if that key is k its metadata is m0
  have hk : nftKey (esdtKeyPrefix ++ tok) (mdNonce t) = k → t.md = some m0 := by
    intro hk
    rw [hnonce] at hk
    exact hM c.caller t (by rw [← hk]; exact hw.present) (by rw [← hk]; exact hw.old)
  have hl := hS' c.caller (nftKey (esdtKeyPrefix ++ tok) (mdNonce t))
  rw [hw.written, Accts.read_write, if_pos ⟨rfl, rfl⟩] at hl
  constructor
  · rw [hw.written]
    exact allMd_write_nft _ _ _ hM (hnum.withValue _) hl hk
  · intro m hm
    have hparse : parseCall tr.data = .ok (fnESDTNFTTransfer,
        tok :: nb :: qb :: encToken { t with value := some (beNat qb : Int) } :: rest) := by
      rw [hdata, parseCall_encodeCall _ _ (by decide) (by decide), hargs]
      simp
    simp only [msgOf, hout, hparse] at hm
    cases hm
    intro hkey t2 hdec2
    have hrt : decToken (encToken { t with value := some (beNat qb : Int) }) = some { t with value := some (beNat qb : Int) } :=
      roundtrip_of_length _ (hnum.withValue _) hlen
    simp only [NMsg.key, hrt] at hkey
    rw [hrt] at hdec2
    cases hdec2
    exact hk hkey

/-- sender side, destination on the same shard -/
theorem md_user_same (m0 : MetaData) (k : Bytes) (env : Env) (c : Call) (A : Accts) (out : VMOutput) (ctx' : Ctx)
    (hI : SInv A) (hM : AllMd m0 k A)
    (hs : present env.nshards env.self c.caller = true)
    (hx : ∀ d, c.args[3]? = some d → env.self = shardOf env.nshards d)
    (h : esdtNFTTransferSender env c { accts := A } = .ok (out, ctx')) (hS' : Short ctx'.accts) :
    AllMd m0 k ctx'.accts := by
  obtain ⟨tok, nb, qb, dst, t, v, A1, cur, cv, h0, h1, h2, h3, hn0, hle, hw, hcur, _, hcv, hfin⟩ :=
    (nftTransferSender_sameShard_effect env c { accts := A } hs hx).elim h
  obtain ⟨dst', h3', _, hne, _⟩ := (nftTransferSender_destination_ok env c { accts := A }).elim h
  rw [h3] at h3'; cases h3'
  have hnum : NumOK t := decToken_num _ _ hw.old
  have hnonce : mdNonce t = u64 (beNat nb) :=
    hw.ownNonce hI.mdpos (fun m hm => (nftSender_nonce env c { accts := A } hs).elim h tok nb t m h0 h1 hw.old hm)
  have hk : nftKey (esdtKeyPrefix ++ tok) (mdNonce t) = k → t.md = some m0 := by
    intro hk
    rw [hnonce] at hk
    exact hM c.caller t (by rw [← hk]; exact hw.present) (by rw [← hk]; exact hw.old)
  have hA1 : A1 = A.write c.caller (nftKey (esdtKeyPrefix ++ tok) (mdNonce t))
      (nftStoredForm { t with value := some (v - beNat qb) }) := hw.written
  have hl1 := hS' c.caller (nftKey (esdtKeyPrefix ++ tok) (mdNonce t))
  rw [hfin, Accts.read_write, if_neg (fun ⟨e, _⟩ => hne e), hA1, Accts.read_write, if_pos ⟨rfl, rfl⟩] at hl1
  have hl2 := hS' dst (nftKey (esdtKeyPrefix ++ tok) (mdNonce t))
  rw [hfin, Accts.read_write, if_pos ⟨rfl, rfl⟩] at hl2
  rw [hfin]
  apply allMd_write_nft _ _ _ _ (hnum.withValue _) hl2 hk
  rw [hA1]
  exact allMd_write_nft _ _ _ hM (hnum.withValue _) hl1 hk

/-- destination side -/
theorem md_dest (m0 : MetaData) (k : Bytes) (env : Env) (c : Call) (A : Accts) (out : VMOutput) (ctx' : Ctx)
    (hM : AllMd m0 k A) (hne : c.caller ≠ c.rcv)
    (tok nb qb payload : Bytes) (hargs : c.args = [tok, nb, qb, payload])
    (t : Token) (hdec : decToken payload = some t)
    (hmsg : nftKey (esdtKeyPrefix ++ tok) (mdNonce t) = k → t.md = some m0)
    (h : esdtNFTTransfer env c { accts := A } = .ok (out, ctx')) (hS' : Short ctx'.accts) :
    AllMd m0 k ctx'.accts := by
  obtain ⟨tok', payload', t', cur, tv, cv, h0, h3, hdec', _, _, hcur, _, _, _, htv, hcv, hw⟩ :=
    (nftTransfer_dest_effect env c { accts := A } hne).elim h
  rw [hargs] at h0 h3
  cases h0; cases h3
  rw [hdec] at hdec'; cases hdec'
  have hl := hS' c.rcv (nftKey (esdtKeyPrefix ++ tok) (mdNonce t))
  rw [hw, Accts.read_write, if_pos ⟨rfl, rfl⟩] at hl
  rw [hw]
  exact allMd_write_nft _ _ _ hM ((decToken_num _ _ hdec).withValue _) hl hmsg

end Esdt

namespace Esdt

/-- the metadata invariant of the world for one NFT (key `k`, metadata `m0`) -/
structure MdInv (m0 : MetaData) (k : Bytes) (w : NFTWorld) : Prop where
  shards : ∀ A ∈ w.shards, AllMd m0 k A
  msgs : ∀ m ∈ w.inflight, MsgMd m0 k m

theorem nftStep_md (m0 : MetaData) (k : Bytes) (e : Env) (w : NFTWorld) (st : NStep) (hI : NWorldInv e w)
    (hM : MdInv m0 k w) (hok : NFTStepOK st) : MdInv m0 k (nftStep e w st) := by
  suffices h : _ ∧ _ from ⟨h.1, h.2⟩
  refine (nftStep_move e w st).all hM.shards hM.msgs ?_ ?_ (fun m hm _ => hM.msgs m hm)
  · intro c out A ctx' hst hr
    subst hst
    obtain ⟨hself, hsys, hdsys⟩ := hok
    have hIA := hI.shards A hr.mem
    let env : Env := { e with self := shardOf e.nshards c.caller }
    have hs : present env.nshards env.self c.caller = true := present_self _ _
    have hex : esdtNFTTransfer env c { accts := A } = .ok (out, ctx') := hr.run
    have hS' : Short ctx'.accts := (short_runFn .nftTransfer env c nofun { accts := A } hIA.short).elim hex
    have hsend := (nftTransfer_sender_path env c { accts := A } hself).elim hex
    obtain ⟨dst, h3, _⟩ := (nftTransferSender_destination_ok env c { accts := A }).elim hsend
    have hdst : ∀ d, c.args[3]? = some d → d = dst := fun d hd => by rw [h3] at hd; cases hd; rfl
    by_cases hx : shardOf e.nshards c.caller = shardOf e.nshards dst
    · have he : nftWire.emit e c out = [] := by simp only [nftWire, h3, if_pos hx]
      rw [he]
      exact ⟨md_user_same m0 k env c A out ctx' hIA (hM.shards A hr.mem) hs (fun d hd => hdst d hd ▸ hx) hsend hS',
        fun _ hm => (List.not_mem_nil hm).elim⟩
    · have he : nftWire.emit e c out = (msgOf c out).toList := by simp only [nftWire, h3, if_neg hx]
      obtain ⟨h1, h2⟩ := md_user_cross m0 k env c A out ctx' hIA (hM.shards A hr.mem) hs (fun d hd => hdst d hd ▸ hx)
        hsend hS'
      rw [he]
      exact ⟨h1, fun m hm => h2 m (Option.mem_toList.mp hm)⟩
  · intro i m c out A ctx' hm hl hr
    have hIA := hI.shards A hr.mem
    obtain ⟨t, q, hdec, _⟩ := (hI.msgs m hm).payload
    obtain ⟨hne, _, hargs⟩ := (hI.msgs m hm).leg hl
    exact md_dest m0 k _ c A out ctx' (hM.shards A hr.mem) hne m.tok m.nb m.qb m.payload hargs t hdec
      (fun hk => hM.msgs m hm (by simp only [NMsg.key, hdec]; exact hk) t hdec) hr.run
      ((short_runFn .nftTransfer _ c nofun { accts := A } hIA.short).elim hr.run)

theorem nftRun_md (m0 : MetaData) (k : Bytes) (e : Env) : ∀ (steps : List NStep) (w : NFTWorld), NWorldInv e w →
    MdInv m0 k w → (∀ s ∈ steps, NFTStepOK s) → MdInv m0 k (nftRun e steps w)
  | [], _, _, hM, _ => hM
  | s :: rest, w, hI, hM, hok =>
    have hok1 := hok s List.mem_cons_self
    nftRun_md m0 k e rest (nftStep e w s) (nftStep_supply e w s hI hok1 []).2 (nftStep_md m0 k e w s hI hM hok1)
      (fun s' hs' => hok s' (List.mem_cons_of_mem _ hs'))

end Esdt
