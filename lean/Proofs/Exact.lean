/-
  Proofs/Exact.lean — exact effects of the storage helpers on the byte-level state, stated on views of the account map.
  For the helpers the NFT functions are built from, what a successful run establishes has a name (`Held`: the sender-side
  lookup, `Saved`: `saveESDTNFTToken`, `Credit`: `addNFTToDestination`); the specification of each function
  (`*_spec` in Ledger / Nonce / Metadata) is stated in these terms, and the ledger, gate, role and nonce theorems of
  C01 – C04 / C07 – C09 are its projections.
-/
import Proofs.Frame
namespace Esdt

/-- what `getESDTDataFromKey` yields for a stored value (`none`: the value does not decode) -/
def tokenOf (raw : Bytes) : Option Token := if raw = [] then some fungibleDefault else decToken raw

/-- what `saveESDTData` stores for a token (its `Value` is present) -/
def storedForm (t : Token) : Bytes :=
  if t.value = some 0 ∧ allZero t.properties = true then [] else encToken t

/-- what `saveESDTNFTToken` stores -/
def nftStoredForm (t : Token) : Bytes :=
  match t.value with
  | some v => if v ≤ 0 then [] else encToken t
  | none => []

/-- pause flag of the storage-level key `k` on this shard -/
def pausedIn (A : Accts) (k : Bytes) : Bool :=
  let v := A.read systemAccountAddress k
  v.length = 2 && pausedOf v

/-- the freeze / pause gate: what a passed `checkFrozeAndPause` establishes -/
def GateOpen (A : Accts) (addr key : Bytes) (t : Token) (rae : Bool) : Prop :=
  rae = false → addr ≠ esdtSCAddress → frozenOf t.properties = false ∧ pausedIn A key = false

/-! ### primitive specifications -/

theorem spec_unmarshalToken (b : Bytes) (c : Ctx) :
    Post (unmarshalToken b) c (fun t c' => c'.accts = c.accts ∧ decToken b = some t) := by
  unfold unmarshalToken
  apply Post.bind
  apply Post.mono (RO.tick .u c)
  intro _ c1 h1
  split
  · rename_i t ht; exact Post.pure ⟨h1, ht⟩
  · exact Post.fail

/-- marshalling: the canonical encoding, shorter than 2^63 bytes (a Go slice) -/
theorem spec_marshalToken_len (t : Token) (c : Ctx) :
    Post (marshalToken t) c (fun b c' => c'.accts = c.accts ∧ b = encToken t ∧ b.length < two63) := by
  unfold marshalToken
  apply Post.bind
  apply Post.mono (RO.tick .m c)
  intro _ c1 h1
  split
  · rename_i hl; exact Post.pure ⟨h1, rfl, hl⟩
  · exact Post.fail

theorem spec_marshalToken (t : Token) (c : Ctx) :
    Post (marshalToken t) c (fun b c' => c'.accts = c.accts ∧ b = encToken t) :=
  Post.mono (spec_marshalToken_len t c) (fun _ _ ⟨h1, h2, _⟩ => ⟨h1, h2⟩)

theorem spec_getESDTDataFromKey (a k : Bytes) (c : Ctx) :
    Post (getESDTDataFromKey a k) c (fun t c' => c'.accts = c.accts ∧ tokenOf (c.accts.read a k) = some t) := by
  unfold getESDTDataFromKey
  apply Post.bind
  apply Post.mono (spec_readKey a k c)
  intro raw c1 ⟨h1, hraw⟩
  subst hraw
  split
  · rename_i he; exact Post.pure ⟨h1, by simp [tokenOf, he]⟩
  · rename_i he
    apply Post.mono (spec_unmarshalToken _ c1)
    intro t c2 ⟨h2, hd⟩
    exact ⟨by rw [h2, h1], by simp [tokenOf, he, hd]⟩

theorem spec_isPaused (k : Bytes) (c : Ctx) :
    Post (isPaused k) c (fun p c' => c'.accts = c.accts ∧ p = pausedIn c.accts k) := by
  unfold isPaused
  apply Post.bind
  apply Post.mono (spec_readKey _ _ c)
  intro v c1 ⟨h1, hv⟩
  subst hv
  exact Post.pure ⟨h1, rfl⟩

theorem spec_checkFrozeAndPause (addr key : Bytes) (t : Token) (rae : Bool) (c : Ctx) :
    Post (checkFrozeAndPause addr key t rae) c (fun _ c' => c'.accts = c.accts ∧ GateOpen c.accts addr key t rae) := by
  unfold checkFrozeAndPause
  split
  · rename_i hr; exact Post.pure ⟨rfl, fun h => by simp [hr] at h⟩
  · split
    · rename_i ha; exact Post.pure ⟨rfl, fun _ h => absurd ha h⟩
    · apply Post.bind
      apply Post.guardE
      intro hfro
      apply Post.bind
      apply Post.mono (spec_isPaused key c)
      intro p c1 ⟨h1, hp⟩
      apply Post.guardE
      intro hp2
      refine ⟨h1, fun _ _ => ⟨hfro, ?_⟩⟩
      rw [← hp]; exact hp2

theorem spec_saveESDTData (a : Bytes) (t : Token) (k : Bytes) (c : Ctx) :
    Post (saveESDTData a t k) c (fun _ c' => t.value.isSome = true ∧ c'.accts = c.accts.write a k (storedForm t)) := by
  unfold saveESDTData
  apply Post.bind
  apply Post.deref
  intro v hv
  split
  · rename_i hz
    apply Post.mono (spec_writeKey a k [] c)
    intro _ c1 h1
    refine ⟨by simp [hv], ?_⟩
    rw [h1]; simp [storedForm, hv, hz.1, hz.2]
  · rename_i hz
    apply Post.bind
    apply Post.mono (spec_marshalToken t c)
    intro b c1 ⟨h1, hb⟩
    apply Post.mono (spec_writeKey a k b c1)
    intro _ c2 h2
    refine ⟨by simp [hv], ?_⟩
    rw [h2, h1, hb]
    have : ¬ (t.value = some 0 ∧ allZero t.properties = true) := by
      intro h; apply hz; rw [hv] at h; exact ⟨by simpa using h.1, h.2⟩
    simp [storedForm, this]

/-- `addToESDTBalance`: the entry must be fungible, the gate open, the new value non-negative; the entry is replaced by
    the stored form of the old token with `Value := old + delta`; nothing else changes -/
theorem spec_addToESDTBalance (a k : Bytes) (d : Int) (rae : Bool) (c : Ctx) :
    Post (addToESDTBalance a k d rae) c (fun _ c' =>
      ∃ t v, tokenOf (c.accts.read a k) = some t ∧ t.type = 0 ∧ t.value = some v ∧ 0 ≤ v + d ∧
        GateOpen c.accts a k t rae ∧
        c'.accts = c.accts.write a k (storedForm { t with value := some (v + d) })) := by
  unfold addToESDTBalance
  apply Post.bind
  apply Post.mono (spec_getESDTDataFromKey a k c)
  intro t c1 ⟨h1, ht⟩
  apply Post.bind
  apply Post.guardE
  intro hty
  apply Post.bind
  apply Post.mono (spec_checkFrozeAndPause a k t rae c1)
  intro _ c2 ⟨h2, hgate⟩
  apply Post.bind
  apply Post.deref
  intro v hv
  apply Post.bind
  apply Post.guardE
  intro hneg
  apply Post.mono (spec_saveESDTData a _ k c2)
  intro _ c3 ⟨_, h3⟩
  refine ⟨t, v, ht, by simpa using hty, hv, by simpa using hneg, by rw [← h1]; exact hgate, ?_⟩
  rw [h3, h2, h1]

end Esdt

namespace Esdt

def mdNonce (t : Token) : Nat := match t.md with | some m => m.nonce | none => 0

/-- The helpers below are specified relative to a name `A` for the account map (`c.accts = A`): a read-only step hands
    the same `A` on, so a walk of a function body states every fact about the pre-state `A` without rewriting. -/
theorem RO.keeps {α} {m : M α} (h : RO m) {c : Ctx} {A : Accts} (hA : c.accts = A) :
    Post m c (fun _ c' => c'.accts = A) := (h c).mono fun _ _ e => e.trans hA

theorem spec_getNFTOnDestination (a tk : Bytes) (n : Nat) (c : Ctx) :
    Post (getNFTOnDestination a tk n) c (fun r c' => c'.accts = c.accts ∧
      tokenOf (c.accts.read a (nftKey tk n)) = some r.1 ∧ r.2 = decide (c.accts.read a (nftKey tk n) = [])) := by
  unfold getNFTOnDestination
  apply Post.bind
  apply Post.mono (spec_readKey a _ c)
  intro raw c1 ⟨h1, hraw⟩
  subst hraw
  split
  · rename_i he; exact Post.pure ⟨h1, by simp [tokenOf, he], by simp [he]⟩
  · rename_i he
    apply Post.bind
    apply Post.mono (spec_unmarshalToken _ c1)
    intro t c2 ⟨h2, hd⟩
    exact Post.pure ⟨by rw [h2, h1], by simp [tokenOf, he, hd], by simp [he]⟩

/-- what a successful `getESDTNFTTokenOnSender` establishes: the entry exists, decodes, and belongs to the nonce that was
    asked for -/
structure Held (A : Accts) (a tk : Bytes) (n : Nat) (t : Token) : Prop where
  present : A.read a (nftKey tk n) ≠ []
  old : decToken (A.read a (nftKey tk n)) = some t
  hasMeta : 0 < n → t.md.isSome = true
  nonce : ∀ m, t.md = some m → m.nonce = 0 ∨ m.nonce = n

theorem getNFTOnSender_held (a tk : Bytes) (n : Nat) {c : Ctx} {A : Accts} (hA : c.accts = A) :
    Post (getNFTOnSender a tk n) c (fun t c' => c'.accts = A ∧ Held A a tk n t) := by
  subst hA
  unfold getNFTOnSender
  apply Post.bind
  apply Post.mono (spec_getNFTOnDestination a tk n c)
  rintro ⟨t, isNew⟩ c1 ⟨h1, ht, hnew⟩
  simp only at ht hnew
  apply Post.bind
  apply Post.guardE
  intro hn
  subst hnew
  have hne : c.accts.read a (nftKey tk n) ≠ [] := by simpa using hn
  apply Post.bind
  apply Post.guardE
  intro hmd
  apply Post.bind
  apply Post.guardE
  intro hnon
  refine Post.pure ⟨h1, hne, by simpa [tokenOf, hne] using ht, ?_, ?_⟩
  · intro hpos
    simp only [decide_eq_false_iff_not, not_and] at hmd
    have := hmd hpos
    cases hmdv : t.md with
    | none => simp [hmdv] at this
    | some m => rfl
  · intro m hm
    rw [hm] at hnon
    simp only [ne_eq, decide_eq_false_iff_not, not_and, Decidable.not_not] at hnon
    by_cases h0 : m.nonce = 0
    · exact Or.inl h0
    · exact Or.inr (hnon h0)

theorem spec_getNFTOnSender (a tk : Bytes) (n : Nat) (c : Ctx) :
    Post (getNFTOnSender a tk n) c (fun t c' => c'.accts = c.accts ∧
      c.accts.read a (nftKey tk n) ≠ [] ∧ decToken (c.accts.read a (nftKey tk n)) = some t ∧
      (0 < n → t.md.isSome = true) ∧ (∀ m, t.md = some m → m.nonce = 0 ∨ m.nonce = n)) :=
  (getNFTOnSender_held a tk n rfl).mono fun _ _ h => ⟨h.1, h.2.present, h.2.old, h.2.hasMeta, h.2.nonce⟩

/-- what a successful `saveESDTNFTToken` establishes: both gates (token key and nonce key) open, and the entry under
    token‖nonce replaced by the stored form, which — being empty or what `Marshal` returned — is a Go slice -/
structure Saved (A A' : Accts) (a tk : Bytes) (t : Token) (rae : Bool) : Prop where
  value : t.value.isSome = true
  gate : GateOpen A a tk t rae
  gateKey : GateOpen A a (nftKey tk (mdNonce t)) t rae
  short : (nftStoredForm t).length < two63
  written : A' = A.write a (nftKey tk (mdNonce t)) (nftStoredForm t)

theorem saveNFT_saved (a tk : Bytes) (t : Token) (rae : Bool) {c : Ctx} {A : Accts} (hA : c.accts = A) :
    Post (saveNFT a tk t rae) c (fun b c' => b = nftStoredForm t ∧ Saved A c'.accts a tk t rae) := by
  subst hA
  unfold saveNFT
  apply Post.bind
  apply Post.mono (spec_checkFrozeAndPause a tk t rae c)
  rintro _ c1 ⟨h1, hg1⟩
  dsimp only
  apply Post.bind
  apply Post.mono (spec_checkFrozeAndPause a _ t rae c1)
  rintro _ c2 ⟨h2, hg2⟩
  rw [h1] at hg2
  apply Post.bind
  apply Post.deref
  intro v hv
  have hsome : t.value.isSome = true := by simp [hv]
  split
  · rename_i hle
    have e : nftStoredForm t = [] := by simp [nftStoredForm, hv, hle]
    apply Post.bind
    apply Post.mono (spec_writeKey a _ [] c2)
    intro _ c3 h3
    exact Post.pure ⟨e.symm, hsome, hg1, hg2, by rw [e]; decide, by rw [h3, h2, h1, e]; rfl⟩
  · rename_i hle
    have e : nftStoredForm t = encToken t := by simp [nftStoredForm, hv, hle]
    apply Post.bind
    apply Post.mono (spec_marshalToken_len t c2)
    rintro b c3 ⟨h3, rfl, hl⟩
    apply Post.bind
    apply Post.mono (spec_writeKey a _ _ c3)
    intro _ c4 h4
    exact Post.pure ⟨e.symm, hsome, hg1, hg2, by rw [e]; exact hl, by rw [h4, h3, h2, h1, e]; rfl⟩

theorem spec_saveNFT (a tk : Bytes) (t : Token) (rae : Bool) (c : Ctx) :
    Post (saveNFT a tk t rae) c (fun b c' =>
      t.value.isSome = true ∧ GateOpen c.accts a tk t rae ∧ GateOpen c.accts a (nftKey tk (mdNonce t)) t rae ∧
      b = nftStoredForm t ∧ c'.accts = c.accts.write a (nftKey tk (mdNonce t)) (nftStoredForm t)) :=
  (saveNFT_saved a tk t rae rfl).mono fun _ _ h => ⟨h.2.value, h.2.gate, h.2.gateKey, h.1, h.2.written⟩

theorem spec_verifyPayable (env : Env) (a : Bytes) (c : Ctx) :
    Post (verifyPayable env a) c (fun _ c' => c'.accts = c.accts ∧ env.payable a = .yes) := by
  unfold verifyPayable
  apply Post.bind
  apply Post.mono (RO.tick .p c)
  intro _ c1 h1
  split
  · rename_i h; exact Post.pure ⟨h1, h⟩
  · exact Post.fail
  · exact Post.fail

theorem spec_verifyPayableIf (env : Env) (mv : Bool) (a : Bytes) (c : Ctx) :
    Post (verifyPayableIf env mv a) c (fun _ c' => c'.accts = c.accts ∧ (mv = true → env.payable a = .yes)) := by
  unfold verifyPayableIf
  split
  · exact Post.mono (spec_verifyPayable env a c) (fun _ _ ⟨x, y⟩ => ⟨x, fun _ => y⟩)
  · rename_i h; exact Post.pure ⟨rfl, fun h' => absurd h' h⟩

theorem spec_checkSameHash (cur t : Token) (c : Ctx) :
    Post (checkSameHash cur t) c (fun _ c' => c' = c ∧ ∀ cm, cur.md = some cm → ∃ tm, t.md = some tm ∧ cm.hash = tm.hash) := by
  unfold checkSameHash
  split
  · rename_i cm hcm
    split
    · rename_i tm htm
      apply Post.guardE
      intro hh
      refine ⟨rfl, fun cm' hcm' => ?_⟩
      rw [hcm] at hcm'
      cases hcm'
      exact ⟨tm, htm, by simpa using hh⟩
    · exact Post.fail
  · rename_i hcm
    exact Post.pure ⟨rfl, fun cm' hcm' => by rw [hcm] at hcm'; cases hcm'⟩

/-- what a successful `addNFTToDestination` of `t` establishes: payability verified when required, the destination's
    current entry `cur` under token‖nonce read, its gate open, the same hash if it carries metadata; the entry is
    replaced by the transferred token with `Value := transferred + existing` -/
structure Credit (env : Env) (A A' : Accts) (dst tk : Bytes) (t cur : Token) (tv cv : Int) (mv rae : Bool) : Prop where
  old : tokenOf (A.read dst (nftKey tk (mdNonce t))) = some cur
  payable : mv = true → env.payable dst = .yes
  gate : GateOpen A dst tk cur rae
  sameHash : ∀ cm, cur.md = some cm → ∃ tm, t.md = some tm ∧ cm.hash = tm.hash
  value : t.value = some tv
  curValue : cur.value = some cv
  saved : Saved A A' dst tk { t with value := some (tv + cv) } rae

theorem addNFTToDestination_credit (env : Env) (dst : Bytes) (t : Token) (tk : Bytes) (mv rae : Bool) {c : Ctx}
    {A : Accts} (hA : c.accts = A) :
    Post (addNFTToDestination env dst t tk mv rae) c (fun t' c' => ∃ cur tv cv,
      t' = { t with value := some (tv + cv) } ∧ Credit env A c'.accts dst tk t cur tv cv mv rae) := by
  subst hA
  unfold addNFTToDestination
  apply Post.bind
  apply Post.mono (spec_verifyPayableIf env mv dst c)
  rintro _ c1 ⟨h1, hp⟩
  dsimp only
  apply Post.bind
  apply Post.mono (spec_getNFTOnDestination dst tk _ c1)
  rintro ⟨cur, _⟩ c2 ⟨h2, hcur, _⟩
  simp only at hcur ⊢
  rw [h1] at hcur
  apply Post.bind
  apply Post.mono (spec_checkFrozeAndPause dst tk cur rae c2)
  rintro _ c3 ⟨h3, hg⟩
  rw [h2, h1] at hg
  apply Post.bind
  apply Post.mono (spec_checkSameHash cur t c3)
  rintro _ c4 ⟨rfl, hhs⟩
  apply Post.bind
  apply Post.deref
  intro tv htv
  apply Post.bind
  apply Post.deref
  intro cv hcv
  apply Post.bind
  apply Post.mono (saveNFT_saved dst tk _ rae (h3.trans (h2.trans h1)))
  rintro _ c5 ⟨_, saved⟩
  exact Post.pure ⟨cur, tv, cv, rfl, hcur, hp, hg, hhs, htv, hcv, saved⟩

theorem spec_addNFTToDestination (env : Env) (dst : Bytes) (t : Token) (tk : Bytes) (mv rae : Bool) (c : Ctx) :
    Post (addNFTToDestination env dst t tk mv rae) c (fun t' c' =>
      ∃ cur tv cv, tokenOf (c.accts.read dst (nftKey tk (mdNonce t))) = some cur ∧
        (mv = true → env.payable dst = .yes) ∧ GateOpen c.accts dst tk cur rae ∧
        (∀ cm, cur.md = some cm → ∃ tm, t.md = some tm ∧ cm.hash = tm.hash) ∧
        t.value = some tv ∧ cur.value = some cv ∧ t' = { t with value := some (tv + cv) } ∧
        GateOpen c.accts dst tk t' rae ∧
        c'.accts = c.accts.write dst (nftKey tk (mdNonce t)) (nftStoredForm t')) := by
  apply (addNFTToDestination_credit env dst t tk mv rae rfl).mono
  rintro _ _ ⟨cur, tv, cv, rfl, cr⟩
  exact ⟨cur, tv, cv, cr.old, cr.payable, cr.gate, cr.sameHash, cr.value, cr.curValue, rfl, cr.saved.gate, cr.saved.written⟩

/-! ### role lists -/

/-- the account holds `role` for `tok`: its stored role list decodes and contains the role -/
def HasRole (A : Accts) (a tok role : Bytes) : Prop :=
  A.read a (roleKeyPrefix ++ tok) ≠ [] ∧ ∃ roles, decRoles (A.read a (roleKeyPrefix ++ tok)) = some roles ∧ role ∈ roles

theorem spec_unmarshalRoles (b : Bytes) (c : Ctx) :
    Post (unmarshalRoles b) c (fun r c' => c'.accts = c.accts ∧ decRoles b = some r) := by
  unfold unmarshalRoles
  apply Post.bind
  apply Post.mono (RO.tick .u c)
  intro _ c1 h1
  split
  · rename_i t ht; exact Post.pure ⟨h1, ht⟩
  · exact Post.fail

theorem spec_checkAllowed (a tok role : Bytes) {c : Ctx} {A : Accts} (hA : c.accts = A) :
    Post (checkAllowed a tok role) c (fun _ c' => c'.accts = A ∧ HasRole A a tok role) := by
  subst hA
  unfold checkAllowed getRoles
  apply Post.bind
  apply Post.bind
  apply Post.mono (spec_readKey a _ c)
  rintro raw c1 ⟨h1, rfl⟩
  split
  · rename_i he
    apply Post.pure
    apply Post.bind
    apply Post.guardE
    intro h; simp at h
  · rename_i he
    apply Post.bind
    apply Post.mono (spec_unmarshalRoles _ c1)
    rintro roles c2 ⟨h2, hd⟩
    apply Post.pure
    apply Post.bind
    apply Post.guardE
    intro _
    apply Post.guardE
    intro hc
    exact ⟨h2.trans h1, he, roles, hd, by simpa using hc⟩

theorem spec_checkAllowedIf (b : Bool) (a tok role : Bytes) {c : Ctx} {A : Accts} (hA : c.accts = A) :
    Post (checkAllowedIf b a tok role) c (fun _ c' => c'.accts = A ∧ (b = true → HasRole A a tok role)) := by
  unfold checkAllowedIf
  split
  · exact (spec_checkAllowed a tok role hA).mono fun _ _ h => ⟨h.1, fun _ => h.2⟩
  · rename_i h; exact Post.pure ⟨hA, fun h' => absurd h' h⟩

end Esdt
