/-
  Proofs/PausedHistory.lean — C04, pause half, over operation sequences: while a token is paused on a shard, no mint /
  local burn / burn / NFT create / add quantity / NFT burn — by anyone except the ESDT system contract's own account, with
  any arguments — changes ANY entry of the token (the fungible entry and the entry of every nonce, byte for byte: value,
  flags and metadata) of any account, and the token stays paused. (Wipe, freeze and unfreeze by the system contract are
  the exceptions the property names; they are not in these sequences.)
-/
import Proofs.FrozenHistory
namespace Esdt

/-- the token is paused on this shard -/
def PausedAt (A : Accts) (tok : Bytes) : Prop := pausedIn A (esdtKeyPrefix ++ tok) = true

/-- token identifiers do not alias: a call that names ANOTHER token never addresses a storage key of `tok` -/
def NoAliasCall (tok : Bytes) (c : Call) : Prop :=
  ∀ tok', c.args[0]? = some tok' → tok' ≠ tok → ∀ n n', nftKey (esdtKeyPrefix ++ tok') n' ≠ nftKey (esdtKeyPrefix ++ tok) n

theorem nftKey_zero (tk : Bytes) : nftKey tk 0 = tk := by simp [nftKey, beBytes_zero]

theorem pausedAt_congr {A A' : Accts} {tok : Bytes}
    (h : A'.read systemAccountAddress (esdtKeyPrefix ++ tok) = A.read systemAccountAddress (esdtKeyPrefix ++ tok))
    (hp : PausedAt A tok) : PausedAt A' tok := by
  unfold PausedAt pausedIn at *
  rw [h]; exact hp

/-- one supply operation other than wipe / freeze / unfreeze, not flagged return-after-error, not run by the system
    account, on a shard where `tok` is paused: every entry of `tok` of every account other than the ESDT system contract's
    own is byte for byte as before, and `tok` is still paused -/
theorem paused_step (op : SupplyOp) (hop : op ≠ .wipe ∧ op ≠ .freeze ∧ op ≠ .unfreeze) (env : Env) (c : Call) (A : Accts)
    (out : VMOutput) (ctx' : Ctx) (h : op.run env c { accts := A } = .ok (out, ctx')) (tok : Bytes) (hp : PausedAt A tok)
    (hrae : c.rae = false) (hsys : c.caller ≠ systemAccountAddress) (hna : NoAliasCall tok c) :
    (∀ a n, a ≠ esdtSCAddress →
      ctx'.accts.read a (nftKey (esdtKeyPrefix ++ tok) n) = A.read a (nftKey (esdtKeyPrefix ++ tok) n)) ∧
    PausedAt ctx'.accts tok := by
  -- a write by the caller under a key of token `tok'`, made through the pause gate of `tok'`
  have key : ∀ (tok' k val : Bytes), c.args[0]? = some tok' → PauseOpen A c c.caller tok' →
      (∃ n', k = nftKey (esdtKeyPrefix ++ tok') n') → ctx'.accts = A.write c.caller k val →
      (∀ a n, a ≠ esdtSCAddress →
        ctx'.accts.read a (nftKey (esdtKeyPrefix ++ tok) n) = A.read a (nftKey (esdtKeyPrefix ++ tok) n)) ∧
      PausedAt ctx'.accts tok := by
    intro tok' k val h0 hgate ⟨n', hk⟩ hw
    have hne : ∀ a n, a ≠ esdtSCAddress → ¬ (c.caller = a ∧ k = nftKey (esdtKeyPrefix ++ tok) n) := by
      rintro a n ha ⟨hca, hkk⟩
      by_cases ht : tok' = tok
      · subst ht
        have := hgate hrae (hca ▸ ha)
        unfold PausedAt at hp; rw [this] at hp; cases hp
      · exact hna tok' h0 ht n n' (hk ▸ hkk)
    refine ⟨fun a n ha => by rw [hw, Accts.read_write, if_neg (hne a n ha)], ?_⟩
    apply pausedAt_congr _ hp
    rw [hw, Accts.read_write, if_neg (fun hh => hsys hh.1)]
  cases op with
  | wipe => exact absurd rfl hop.1
  | freeze => exact absurd rfl hop.2.1
  | unfreeze => exact absurd rfl hop.2.2
  | mint =>
    obtain ⟨tok', _, t, v, h0, _, hw, hg⟩ := (localMint_effect env c { accts := A }).elim h
    exact key tok' _ _ h0 hg.pause ⟨0, (nftKey_nonce0 _).symm⟩ hw.written
  | localBurn =>
    obtain ⟨tok', _, t, v, h0, _, hw, hg⟩ := (localBurn_effect env c { accts := A }).elim h
    exact key tok' _ _ h0 hg.pause ⟨0, (nftKey_nonce0 _).symm⟩ hw.written
  | burn =>
    obtain ⟨tok', _, t, v, h0, _, hw, hg⟩ := (esdtBurn_effect env c { accts := A }).elim h
    exact key tok' _ _ h0 hg.pause ⟨0, (nftKey_nonce0 _).symm⟩ hw.written
  | addQty =>
    obtain ⟨tok', nb, qb, t, v, h0, h1, _, hn0, hw, hg⟩ := (addQuantity_effect env c { accts := A }).elim h
    exact key tok' _ _ h0 hg.pause ⟨_, rfl⟩ hw.written
  | nftBurn =>
    obtain ⟨tok', nb, qb, t, v, h0, h1, _, hn0, _, hw, hg⟩ := (nftBurn_effect env c { accts := A }).elim h
    exact key tok' _ _ h0 hg.pause ⟨_, rfl⟩ hw.written
  | create =>
    obtain ⟨tok', qb, name, roy, hash, attrs, n1, A1, h0, _, _, _, _, _, _, _, _, _, hA1, hw⟩ :=
      (nftCreate_effect env c { accts := A }).elim h
    obtain ⟨tok'', h0', hgate⟩ := (pause_nftCreate env c { accts := A }).elim h
    rw [h0] at h0'; cases h0'
    simp only at hA1 hw hgate
    have hne1 : ∀ a n, a ≠ esdtSCAddress →
        ¬ (c.caller = a ∧ nftKey (esdtKeyPrefix ++ tok') n1 = nftKey (esdtKeyPrefix ++ tok) n) := by
      rintro a n ha ⟨hca, hkk⟩
      by_cases ht : tok' = tok
      · subst ht
        have := hgate hrae (hca ▸ ha)
        unfold PausedAt at hp; rw [this] at hp; cases hp
      · exact hna tok' h0 ht n n1 hkk
    have hne2 : ∀ a n, ¬ (c.caller = a ∧ nonceKeyPrefix ++ tok' = nftKey (esdtKeyPrefix ++ tok) n) :=
      fun a n hh => not_tokKey_nonce tok' (hh.2 ▸ tokKey_nft tok n)
    refine ⟨fun a n ha => by rw [hw, Accts.read_write, if_neg (hne2 a n), hA1, Accts.read_write, if_neg (hne1 a n ha)], ?_⟩
    apply pausedAt_congr _ hp
    rw [hw, Accts.read_write, if_neg (fun hh => hsys hh.1), hA1, Accts.read_write, if_neg (fun hh => hsys hh.1)]

/-- what is assumed of every operation of a history in which `tok` stays paused -/
def PStepOK (tok : Bytes) (s : SStep) : Prop :=
  (s.op ≠ .wipe ∧ s.op ≠ .freeze ∧ s.op ≠ .unfreeze) ∧ s.c.rae = false ∧ s.c.caller ≠ systemAccountAddress ∧
  NoAliasCall tok s.c

/-- along ANY sequence of such operations (failed ones rolled back) every entry of the paused token is as at the start -/
theorem paused_history_run (tok : Bytes) : ∀ (steps : List SStep) (A : Accts), (∀ s ∈ steps, PStepOK tok s) →
    PausedAt A tok →
    (∀ a n, a ≠ esdtSCAddress →
      (srun steps A).1.read a (nftKey (esdtKeyPrefix ++ tok) n) = A.read a (nftKey (esdtKeyPrefix ++ tok) n)) ∧
    PausedAt (srun steps A).1 tok
  | [], _, _, hp => ⟨fun _ _ _ => rfl, hp⟩
  | s :: rest, A, hps, hp => by
    obtain ⟨hop, hrae, hsys, hna⟩ := hps s List.mem_cons_self
    have hps' := fun s' hs' => hps s' (List.mem_cons_of_mem _ hs')
    rcases he : s.op.run s.env s.c { accts := A } with ⟨out, ctx'⟩ | _ | _ <;> simp only [srun, he]
    · obtain ⟨h1, hp1⟩ := paused_step s.op hop s.env s.c A out ctx' he tok hp hrae hsys hna
      obtain ⟨h2, hp2⟩ := paused_history_run tok rest ctx'.accts hps' hp1
      exact ⟨fun a n ha => (h2 a n ha).trans (h1 a n ha), hp2⟩
    · exact paused_history_run tok rest A hps' hp
    · exact paused_history_run tok rest A hps' hp

end Esdt
