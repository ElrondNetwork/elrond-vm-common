/-
  Proofs/UnifiedPaused.lean — C04, pause half, in the mixed world (Proofs/Unified.lean): while a token is paused on a shard,
  no entry of the token (fungible or any nonce; value, flags, metadata: byte for byte) of any account of that shard other
  than the ESDT system contract's own changes, and the token stays paused.  `Pz tok f` says so of one shard; a write can
  reach an entry of `tok` only behind the pause gate of `tok`, which is shut (`Pz.write_gated`), so the three gated writers
  keep `Pz` (`pa_*`) and with them every one of the 23 functions (`pz_runFn`), for any caller and any arguments. Excluded, as
  the property words it: wipe / freeze / unfreeze / (un)pause of that very token by the system contract, calls flagged
  return-after-error that name that token (refunds), and aliasing token identifiers (`PzCallOK`).
  The world theorem of this file takes ESDTTransfer traffic (user transactions, deliveries, refusals, refunds) mixed with
  calls of the 20 functions that are not transfers; Proofs/UnifiedPausedNFT and Proofs/UnifiedPausedMulti add the other
  two kinds of transfer traffic.
-/
import Proofs.Unified
import Proofs.Gated
import Proofs.PausedHistory
namespace Esdt

/-- `tok` is paused and every entry of it reads what `f` says -/
def Pz (tok : Bytes) (f : Bytes → Nat → Bytes) (A : Accts) : Prop :=
  PausedAt A tok ∧ ∀ a n, a ≠ esdtSCAddress → A.read a (nftKey (esdtKeyPrefix ++ tok) n) = f a n

variable {tok : Bytes} {f : Bytes → Nat → Bytes}

theorem esdtSC_ne_sys : esdtSCAddress ≠ systemAccountAddress := by decide

theorem Pz.write_other {A : Accts} (hf : Pz tok f A) (a1 k1 val : Bytes)
    (hne : ∀ n, k1 ≠ nftKey (esdtKeyPrefix ++ tok) n) : Pz tok f (A.write a1 k1 val) := by
  refine ⟨pausedAt_congr ?_ hf.1, fun a n ha => ?_⟩
  · rw [Accts.read_write, if_neg (fun hh => hne 0 (by rw [nftKey_zero]; exact hh.2))]
  · rw [Accts.read_write, if_neg (fun hh => hne n hh.2)]; exact hf.2 a n ha

/-- a write into the ESDT system contract's own account -/
theorem Pz.write_sc {A : Accts} (hf : Pz tok f A) (k1 val : Bytes) : Pz tok f (A.write esdtSCAddress k1 val) := by
  refine ⟨pausedAt_congr ?_ hf.1, fun a n ha => ?_⟩
  · rw [Accts.read_write, if_neg (fun hh => esdtSC_ne_sys hh.1)]
  · rw [Accts.read_write, if_neg (fun hh => ha hh.1.symm)]; exact hf.2 a n ha

theorem ntc_pz (tok : Bytes) (f : Bytes → Nat → Bytes) : NTC (Pz tok f) := by
  refine ⟨fun A a1 k1 val hk h => h.write_other a1 k1 val (fun n he => hk (he ▸ tokKey_nft tok n)), fun A a1 x hx h => ?_⟩
  refine ⟨pausedAt_congr (read_set_fields A a1 x hx _ _) h.1, fun a n ha => ?_⟩
  rw [read_set_fields A a1 x hx]; exact h.2 a n ha

/-- a token identifier that does not alias `tok`: it is `tok` itself, or none of its keys is a key of `tok` -/
def NoAliasTok (tok tok' : Bytes) : Prop :=
  tok' ≠ tok → ∀ n n', nftKey (esdtKeyPrefix ++ tok') n' ≠ nftKey (esdtKeyPrefix ++ tok) n

theorem NoAliasTok.key0 {tok' : Bytes} (h : NoAliasTok tok tok') (hne : tok' ≠ tok) (n : Nat) :
    esdtKeyPrefix ++ tok' ≠ nftKey (esdtKeyPrefix ++ tok) n := by
  have := h hne n 0; rwa [nftKey_zero] at this

/-- `Pz` keeps the pause gate of `tok` shut.  It survives a write under a key of `tokenID` (`tok` itself, or a token that
    does not alias it): into the ESDT system contract's own account, under a key of another token, or — the one case
    left — behind the gate of `tok`, which cannot have let it through -/
theorem Pz.write_gated {A : Accts} (hf : Pz tok f A) {tokenID : Bytes} (hna : NoAliasTok tok tokenID) (a1 : Bytes)
    (n : Nat) (val : Bytes) (hg : tokenID = tok → a1 ≠ esdtSCAddress → pausedIn A (esdtKeyPrefix ++ tok) = false) :
    Pz tok f (A.write a1 (nftKey (esdtKeyPrefix ++ tokenID) n) val) := by
  by_cases hsc : a1 = esdtSCAddress
  · rw [hsc]; exact hf.write_sc _ _
  · by_cases ht : tokenID = tok
    · exact absurd (hg ht hsc) (by rw [show pausedIn A _ = true from hf.1]; decide)
    · exact hf.write_other _ _ _ (fun n' => hna ht n' n)

/-! ### the three gated writers -/

/-- a balance change through the gate cannot hit an entry of the paused token -/
theorem pa_addTo (a1 tokenID : Bytes) (d : Int) (hna : NoAliasTok tok tokenID) :
    Pres (Pz tok f) (addToESDTBalance a1 (esdtKeyPrefix ++ tokenID) d false) :=
  gated_addToESDTBalance d fun A v hf h => by
    have := hf.write_gated hna a1 0 v (fun ht hsc => ht ▸ h.pause hsc)
    rwa [nftKey_zero] at this

/-- … and one aimed at another token does not touch it, whatever its flag -/
theorem pa_addTo_other (a1 tokenID : Bytes) (d : Int) (rae : Bool) (hne : tokenID ≠ tok) (hna : NoAliasTok tok tokenID) :
    Pres (Pz tok f) (addToESDTBalance a1 (esdtKeyPrefix ++ tokenID) d rae) :=
  gated_addToESDTBalance d fun _ _ hf _ => hf.write_other _ _ _ (fun n => hna.key0 hne n)

/-- a write through `saveESDTNFTToken` (not flagged) cannot hit an entry of the paused token -/
theorem pa_saveNFT (a tokenID : Bytes) (t : Token) (hna : NoAliasTok tok tokenID) :
    Pres (Pz tok f) (saveNFT a (esdtKeyPrefix ++ tokenID) t false) :=
  gated_saveNFT fun _ v hf hg => hf.write_gated hna a _ v (fun ht hsc => ht ▸ (hg rfl hsc).2)

/-- … whatever its flag when the token is another one -/
theorem pa_saveNFT_other (a tokenID : Bytes) (t : Token) (rae : Bool) (hne : tokenID ≠ tok) (hna : NoAliasTok tok tokenID) :
    Pres (Pz tok f) (saveNFT a (esdtKeyPrefix ++ tokenID) t rae) :=
  gated_saveNFT fun _ _ hf _ => hf.write_other _ _ _ (fun n => hna hne n (mdNonce t))

theorem pa_addNFT (env : Env) (dst tokenID : Bytes) (t : Token) (mv : Bool) (hna : NoAliasTok tok tokenID) :
    Pres (Pz tok f) (addNFTToDestination env dst t (esdtKeyPrefix ++ tokenID) mv false) :=
  gated_addNFTToDestination env mv fun _ v hf h => hf.write_gated hna dst _ v (fun ht hsc => ht ▸ h.pause hsc)

theorem pa_addNFT_other (env : Env) (dst tokenID : Bytes) (t : Token) (mv rae : Bool) (hne : tokenID ≠ tok)
    (hna : NoAliasTok tok tokenID) : Pres (Pz tok f) (addNFTToDestination env dst t (esdtKeyPrefix ++ tokenID) mv rae) :=
  gated_addNFTToDestination env mv fun _ _ hf _ => hf.write_other _ _ _ (fun n => hna hne n (mdNonce t))

/-! ### all 23 functions -/

/-- the token identifiers a call of `fn` can name: any argument of a multi transfer, else argument 0 -/
def namesTok (fn : FnId) (c : Call) (t : Bytes) : Prop :=
  match fn with
  | .multiTransfer => t ∈ c.args
  | _ => c.args[0]? = some t

theorem namesTok.arg0 {fn : FnId} {c : Call} {t : Bytes} (h : namesTok fn c t) (hm : fn ≠ .multiTransfer) :
    c.args[0]? = some t := by
  cases fn <;> first | exact h | exact absurd rfl hm

/-- a call that is harmless for the paused token: every token it names is `tok` itself in a call not flagged
    return-after-error (the gate stands), or another token that does not alias it; and the five operations the system
    contract performs WITHOUT the gate (wipe / freeze / unfreeze / pause / un-pause) are aimed at another token -/
structure PzCallOK (tok : Bytes) (fn : FnId) (c : Call) : Prop where
  names : ∀ t, namesTok fn c t → NoAliasTok tok t ∧ (c.rae = false ∨ t ≠ tok)
  notTarget : (fn = .esdtWipe ∨ fn = .esdtFreeze ∨ fn = .esdtUnFreeze ∨ fn = .esdtPause ∨ fn = .esdtUnPause) →
    ∀ t0, c.args[0]? = some t0 → t0 ≠ tok

theorem PzCallOK.of_transfer {fn : FnId} {c : Call} (ht : isTransferFn fn = true)
    (h : ∀ t, namesTok fn c t → NoAliasTok tok t ∧ (c.rae = false ∨ t ≠ tok)) : PzCallOK tok fn c :=
  ⟨h, fun hfn => by rcases hfn with rfl | rfl | rfl | rfl | rfl <;> cases ht⟩

/-- every function keeps `Pz`: the seven that write no token entry because `Pz` speaks of token entries only; the five
    system-only ones because they write one slot of another token; the rest because they write through the gated
    writers only (`pres_*`), which cannot reach an entry of the paused token -/
theorem pz_runFn (fn : FnId) (env : Env) (c : Call) (ok : PzCallOK tok fn c) : Pres (Pz tok f) (runFn fn env c) := by
  have mem : ∀ {i : Nat} {t : Bytes}, c.args[i]? = some t → t ∈ c.args := List.mem_of_getElem?
  have addTo : ∀ t, namesTok fn c t → ∀ a d, Pres (Pz tok f) (addToESDTBalance a (esdtKeyPrefix ++ t) d c.rae) :=
    fun t ht a d => (ok.names t ht).2.elim (fun hr => hr ▸ pa_addTo a t d (ok.names t ht).1)
      (fun hne => pa_addTo_other a t d _ hne (ok.names t ht).1)
  have save : ∀ t, namesTok fn c t → ∀ a x, Pres (Pz tok f) (saveNFT a (esdtKeyPrefix ++ t) x c.rae) :=
    fun t ht a x => (ok.names t ht).2.elim (fun hr => hr ▸ pa_saveNFT a t x (ok.names t ht).1)
      (fun hne => pa_saveNFT_other a t x _ hne (ok.names t ht).1)
  have addNFT : ∀ t, namesTok fn c t → ∀ env dst x mv,
      Pres (Pz tok f) (addNFTToDestination env dst x (esdtKeyPrefix ++ t) mv c.rae) :=
    fun t ht env dst x mv => (ok.names t ht).2.elim (fun hr => hr ▸ pa_addNFT env dst t x mv (ok.names t ht).1)
      (fun hne => pa_addNFT_other env dst t x mv _ hne (ok.names t ht).1)
  have plain : PlainFn fn → Pres (Pz tok f) (runFn fn env c) := fun hp ctx h0 =>
    Post.of_forall fun out ctx' hex => plain_pres (ntc_pz tok f) hp env c ctx ctx' out h0 hex
  have raw : (fn = .esdtWipe ∨ fn = .esdtFreeze ∨ fn = .esdtUnFreeze ∨ fn = .esdtPause ∨ fn = .esdtUnPause) →
      ∀ t, namesTok fn c t → c.args[0]? = some t → ∀ a v, Pres (Pz tok f) (writeKey a (esdtKeyPrefix ++ t) v) :=
    fun hfn t ht h0 a v ctx hf => Post.mono (spec_writeKey a _ v ctx) (fun _ c' he => by
      rw [he]; exact hf.write_other _ _ _ (fun n => (ok.names t ht).1.key0 (ok.notTarget hfn t h0) n))
  cases fn <;> simp only [runFn]
  · exact plain .claim
  · exact plain .owner
  · exact plain .name
  · exact plain .skv
  · exact comp_esdtPause Pres.comp env c _ (fun t h0 => raw (Or.inr (Or.inr (Or.inr (Or.inl rfl)))) t h0 h0 _ _)
  · exact comp_esdtPause Pres.comp env c _ (fun t h0 => raw (Or.inr (Or.inr (Or.inr (Or.inr rfl)))) t h0 h0 _ _)
  · exact comp_esdtTransfer Pres.comp env c (fun t h0 a d _ => addTo t h0 a d)
  · exact comp_esdtBurn Pres.comp env c (fun t h0 d => addTo t h0 _ d)
  · exact comp_esdtFreezeWipe Pres.comp env c _ (fun t h0 => raw (Or.inr (Or.inl rfl)) t h0 h0 _ _)
      (fun t h0 x => comp_saveESDTData Pres.comp x (fun v _ => raw (Or.inr (Or.inl rfl)) t h0 h0 _ v))
  · exact comp_esdtFreezeWipe Pres.comp env c _ (fun t h0 => raw (Or.inr (Or.inr (Or.inl rfl))) t h0 h0 _ _)
      (fun t h0 x => comp_saveESDTData Pres.comp x (fun v _ => raw (Or.inr (Or.inr (Or.inl rfl))) t h0 h0 _ v))
  · exact comp_esdtFreezeWipe Pres.comp env c _ (fun t h0 => raw (Or.inl rfl) t h0 h0 _ _)
      (fun t h0 x => comp_saveESDTData Pres.comp x (fun v _ => raw (Or.inl rfl) t h0 h0 _ v))
  · exact plain .unSetRole
  · exact plain .setRole
  · exact comp_esdtLocalBurn Pres.comp env c (fun t h0 d => addTo t h0 _ d)
  · exact comp_esdtLocalMint Pres.comp env c (fun t h0 d => addTo t h0 _ d)
  · exact comp_esdtNFTAddQuantity Pres.comp env c (fun t h0 x => save t h0 _ x)
  · exact comp_esdtNFTBurn Pres.comp env c (fun t h0 x => save t h0 _ x)
  · exact comp_esdtNFTCreate Pres.comp env c (fun t h0 x => save t h0 _ x)
      (fun t _ n _ => NTC.writeKey (ntc_pz tok f) _ _ _ (not_tokKey_nonce t))
  · exact comp_esdtNFTTransfer Pres.comp env c (fun _ t _ h0 _ _ x => save t h0 _ x)
      (fun _ t _ dst h0 _ _ _ x mv => addNFT t h0 env dst x mv) (fun _ t _ x h0 _ _ mv => addNFT t h0 env _ x mv)
  · exact plain .handOver
  · exact comp_esdtNFTUpdateAttributes Pres.comp env c (fun t h0 x => save t h0 _ x)
  · exact comp_esdtNFTAddURI Pres.comp env c (fun t h0 x => save t h0 _ x)
  · exact comp_multiTransfer Pres.comp env c
      (fun _ dst _ _ t _ _ l v h0 _ _ => comp_transferOne Pres.comp env c l dst t _ _ v (fun x => save t (mem h0) _ x)
        (fun x => addNFT t (mem h0) env dst x v))
      (fun _ _ t _ x h0 _ _ mv => addNFT t (mem h0) env _ x mv) (fun _ _ t h0 d => addTo t (mem h0) _ d)

/-! ### the 20 functions that are not transfers -/

/-- what is assumed of a call for the paused token: it is not flagged return-after-error; it names `tok` itself or a token
    that does not alias it; and it is none of the system contract's exempt operations ON `tok` (wipe / freeze / unfreeze /
    pause / un-pause of that very token) -/
structure LocalPzOK (tok : Bytes) (f : FnId) (c : Call) : Prop where
  rae : c.rae = false
  noAlias : ∀ t0, c.args[0]? = some t0 → NoAliasTok tok t0
  notTarget : (f = .esdtWipe ∨ f = .esdtFreeze ∨ f = .esdtUnFreeze ∨ f = .esdtPause ∨ f = .esdtUnPause) →
    ∀ t0, c.args[0]? = some t0 → t0 ≠ tok

theorem LocalPzOK.call {fn : FnId} {c : Call} (okp : LocalPzOK tok fn c) (hm : isTransferFn fn = false) :
    PzCallOK tok fn c :=
  ⟨fun t ht => ⟨okp.noAlias t (ht.arg0 (fun he => by rw [he] at hm; cases hm)), Or.inl okp.rae⟩, okp.notTarget⟩

theorem local_pz_step (fn : FnId) (env : Env) (c : Call) (A : Accts) (out : VMOutput) (ctx' : Ctx)
    (ok : LocalOK env fn c A) (okp : LocalPzOK tok fn c)
    (hf : Pz tok f A) (h : exec env fn c { accts := A } = .ok (out, ctx')) : Pz tok f ctx'.accts :=
  (pz_runFn fn env c (okp.call ok.notTransfer) { accts := A } hf).elim h

/-! ### the world: ESDTTransfer traffic mixed with the 20 other functions -/

/-- `tok` is paused on shard `i`, whose entries of `tok` read `f` -/
def PzW (tok : Bytes) (f : Bytes → Nat → Bytes) (i : Nat) (w : UWorld) : Prop := ∃ A, w.shards[i]? = some A ∧ Pz tok f A

/-- what is assumed of a step for the paused token -/
def UPzStepOK (tok : Bytes) (w : UWorld) : UStep → Prop
  | .ft (.user c) => c.rae = false ∧ ∀ t0, c.args[0]? = some t0 → NoAliasTok tok t0
  | .ft (.deliver j) => ∀ m, w.ft[j]? = some m → NoAliasTok tok m.tok
  | .ft (.refund j) => ∀ m, w.ft[j]? = some m → m.tok ≠ tok ∧ NoAliasTok tok m.tok
  | .call _ fn c => LocalPzOK tok fn c
  | .nft _ => False
  | .multi _ => False

/-- a step keeps `Pz` on shard `i` as soon as the call it makes is harmless for the paused token -/
theorem ustep_pz_of (e : Env) (w : UWorld) (st : UStep) (i : Nat)
    (h : ∀ s fn c, st.call? e w = some (s, fn, c) → ∀ A, w.shards[s]? = some A → PzCallOK tok fn c)
    (hF : PzW tok f i w) : PzW tok f i (ustep e w st) :=
  ustep_shard i (fun s fn c hc A hA hf => pz_runFn fn _ c (h s fn c hc A hA) _ hf) hF

theorem ustep_pz (e : Env) (w : UWorld) (st : UStep) (i : Nat) (hok : UStepOK e w st)
    (hpz : UPzStepOK tok w st) (hF : PzW tok f i w) : PzW tok f i (ustep e w st) := by
  refine ustep_pz_of e w st i (fun s fn c hc A hA => ?_) hF
  cases st with
  | nft st => exact hpz.elim
  | multi st => exact hpz.elim
  | call s' fn' c' =>
    cases hc
    exact LocalPzOK.call hpz (hok A hA).notTransfer
  | ft st =>
    cases st with
    | user c' => cases hc; exact .of_transfer rfl fun t ht => ⟨hpz.2 t ht, Or.inl hpz.1⟩
    | deliver j =>
      obtain ⟨m, hm, hc⟩ := Option.map_eq_some_iff.mp hc; cases hc
      exact .of_transfer rfl fun t ht => by cases ht; exact ⟨hpz m hm, Or.inl rfl⟩
    | refund j =>
      obtain ⟨m, hm, hc⟩ := Option.map_eq_some_iff.mp hc; cases hc
      exact .of_transfer rfl fun t ht => by cases ht; exact ⟨(hpz m hm).2, Or.inr (hpz m hm).1⟩

/-- every step is admissible for the paused token, on the world it runs on -/
def UPzStepsOK (e : Env) (tok : Bytes) : List UStep → UWorld → Prop
  | [], _ => True
  | st :: rest, w => UPzStepOK tok w st ∧ UPzStepsOK e tok rest (ustep e w st)

/-- FULL over histories of ESDTTransfer traffic mixed with the 20 non-transfer functions -/
theorem unified_pz_history (e : Env) (i : Nat) :
    ∀ (steps : List UStep) (w : UWorld), UInv e w → UStepsOK e steps w → UPzStepsOK e tok steps w →
      PzW tok f i w → PzW tok f i (urun e steps w).1 :=
  urun_pres e fun st _ w _ hok hR hF => ⟨ustep_pz e w st i hok hR.1 hF, hR.2⟩

end Esdt
