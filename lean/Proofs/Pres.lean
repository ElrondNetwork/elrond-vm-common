/-
  Proofs/Pres.lean — `Pres I m`: every successful run of `m` keeps the invariant `I` of the account table.

  The functions change the table only through a handful of writer helpers (`writeKey`, `saveESDTData`, `addToESDTBalance`,
  `saveNFT`, `addNFTToDestination`, `saveRoles`, `saveLatestNonce`, `addCreateRole`, the four account-field setters); all
  the rest of a body is read-only.  `Pres I` is compositional, so the lemmas of Proofs/Compositional.lean apply: a body
  preserves `I` as soon as the writers it calls do.  Every preservation theorem of the development — footprints, short
  values, one record per address, paused / frozen entries, metadata — instantiates them; no proof walks a function body
  for an invariant.
-/
import Proofs.Exact
namespace Esdt

/-- `I` is closed under replacing one account's record -/
def SetClosed (I : Accts → Prop) : Prop := ∀ A a x, I A → I (A.set a x)

@[reducible] def Pres (I : Accts → Prop) {α} (m : M α) : Prop :=
  ∀ c, I c.accts → Post m c (fun _ c' => I c'.accts)

variable {I : Accts → Prop}

theorem Pres.of_ro {α} {m : M α} (h : RO m) : Pres I m := by
  intro c hs
  apply Post.mono (h c)
  intro _ c' he
  rw [he]; exact hs

theorem Pres.bind {α β} {m : M α} {f : α → M β} (hm : Pres I m) (hf : ∀ a, Pres I (f a)) : Pres I (m >>= f) := by
  intro c hs
  apply Post.bind
  apply Post.mono (hm c hs)
  intro a c1 h1
  exact hf a c1 h1

theorem Pres.pure {α} (a : α) : Pres I (pure a : M α) := Pres.of_ro (RO.pure a)
theorem Pres.fail {α} (e : ErrKind) : Pres I (fail e : M α) := Pres.of_ro (RO.fail e)

/-- preservation is compositional: `comp_<fn> Pres.comp` (Proofs/Compositional.lean) says, for each function, that it
    keeps `I` as soon as the writer helpers it calls do, with the arguments it calls them with -/
theorem Pres.comp : Compositional (@Pres I) :=
  ⟨Pres.pure, Pres.fail, Pres.of_ro RO.goPanic, fun hm hf => Pres.bind hm hf, fun d => Pres.of_ro (RO.tick d),
    fun a k => Pres.of_ro (RO.readKey a k), fun a => Pres.of_ro (RO.getAcct a)⟩

theorem Pres.argAt_bind {I : Accts → Prop} {β} {args : List Bytes} {i : Nat} {f : Bytes → M β}
    (hf : ∀ t, args[i]? = some t → Pres I (f t)) : Pres I (argAt args i >>= f) :=
  comp_argAt_bind Pres.comp hf

end Esdt
