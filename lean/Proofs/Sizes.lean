/-
  Proofs/Sizes.lean — (A) a token whose numeric fields are in range and whose encoding is shorter than 2^63 bytes is in
  the codec's domain (every field is embedded literally in the encoding); (B) whatever the decoder returns has its
  numeric fields in range.
-/
import Proofs.Codec
namespace Esdt

/-- numeric fields in their Go ranges (uint32 type / royalties, uint64 nonce) -/
structure NumOK (t : Token) : Prop where
  type : t.type < two32
  md : ∀ m, t.md = some m → m.nonce < two64 ∧ m.royalties < two32

theorem encBytesField_length (tag : UInt8) (b : Bytes) : b.length ≤ (encBytesField tag b).length := by
  unfold encBytesField
  split
  · rename_i h; simp [h]
  · have := encLenDelim_length tag b; omega

theorem uris_length (us : List Bytes) : ∀ u ∈ us, u.length ≤ (us.flatMap fun u => encLenDelim 0x32 u).length := by
  induction us with
  | nil => intro u hu; cases hu
  | cons x xs ih =>
    intro u hu
    simp only [List.flatMap_cons, List.length_append]
    rcases List.mem_cons.mp hu with rfl | h
    · have := encLenDelim_length 0x32 u; omega
    · have := ih u h; omega

theorem metaOK_of_length (m : MetaData) (hn : m.nonce < two64) (hr : m.royalties < two32)
    (hl : (encMeta m).length < two63) : MetaOK m := by
  have h1 := encBytesField_length 0x12 m.name
  have h2 := encBytesField_length 0x1a m.creator
  have h3 := encBytesField_length 0x2a m.hash
  have h4 := encBytesField_length 0x3a m.attributes
  have h5 := uris_length m.uris
  simp only [encMeta, List.length_append] at hl
  refine ⟨hn, hr, by omega, by omega, by omega, by omega, ?_⟩
  intro u hu
  have := h5 u hu
  omega

/-- (A) -/
theorem tokenOK_of_length (t : Token) (hn : NumOK t) (hl : (encToken t).length < two63) : TokenOK t := by
  rw [encToken_eq] at hl
  simp only [List.length_append] at hl
  have h2 := encLenDelim_length 0x12 (encBigInt t.value)
  have h3 := encBytesField_length 0x1a t.properties
  have h5 := encBytesField_length 0x2a t.reserved
  refine ⟨hn.type, by omega, by omega, by omega, ?_⟩
  intro m hm
  have hmd : (encMeta m).length + 2 ≤ (encMdField t.md).length := by
    rw [hm]; exact encLenDelim_length 0x22 (encMeta m)
  exact ⟨metaOK_of_length m (hn.md m hm).1 (hn.md m hm).2 (by omega), by omega⟩

theorem roundtrip_of_length (t : Token) (hn : NumOK t) (hl : (encToken t).length < two63) :
    decToken (encToken t) = some t := decToken_encToken t (tokenOK_of_length t hn hl)

end Esdt

namespace Esdt

/-! ### (B) decoded numeric fields are in range -/

theorem decLoop_inv {σ : Type} (step : Bytes → σ → Option (Bytes × σ)) (P : σ → Prop)
    (hstep : ∀ bs s rest s', step bs s = some (rest, s') → P s → P s') :
    ∀ fuel bs s r, P s → decLoop step fuel bs s = some r → P r := by
  intro fuel
  induction fuel with
  | zero => intro bs s r _ h; simp [decLoop] at h
  | succ n ih =>
    intro bs s r hP h
    unfold decLoop at h
    split at h
    · cases h; exact hP
    · split at h
      · cases h
      · rename_i rest s' he
        exact ih rest s' r (hstep _ _ _ _ he hP) h

theorem decVarintAux_lt : ∀ (bs : Bytes) (shift acc v : Nat) (rest : Bytes),
    decVarintAux shift acc bs = some (v, rest) → v < two64 := by
  intro bs
  induction bs with
  | nil => intro shift acc v rest h; simp [decVarintAux] at h
  | cons b bs ih =>
    intro shift acc v rest h
    unfold decVarintAux at h
    split at h
    · cases h
    · simp only at h
      split at h
      · cases h
        exact Nat.mod_lt _ (by decide)
      · exact ih _ _ _ _ h

theorem decVarint_lt (bs : Bytes) (v : Nat) (rest : Bytes) (h : decVarint bs = some (v, rest)) : v < two64 :=
  decVarintAux_lt bs 0 0 v rest h

def MetaNum (m : MetaData) : Prop := m.nonce < two64 ∧ m.royalties < two32

/- Both step invariants pick the branch by `by_cases` on the field number and `rw [if_pos/if_neg]`: a `split at h` on the
   outer `if`s re-simplifies the whole unfolded step each time and is slow to check. -/
theorem decMetaStep_num (bs : Bytes) (m : MetaData) (rest : Bytes) (m' : MetaData)
    (h : decMetaStep bs m = some (rest, m')) (hm : MetaNum m) : MetaNum m' := by
  unfold decMetaStep at h
  cases hd : decTag bs with
  | none => rw [hd] at h; cases h
  | some p =>
    obtain ⟨f, wt, r⟩ := p
    rw [hd] at h
    dsimp only at h
    by_cases h1 : f = 1
    · rw [if_pos h1] at h
      split at h
      · cases h
      · split at h
        · cases h
        · rename_i v r' hv
          cases h
          exact ⟨decVarint_lt _ _ _ hv, hm.2⟩
    rw [if_neg h1] at h
    by_cases h4 : f = 4
    · rw [if_pos h4] at h
      split at h
      · cases h
      · split at h
        · cases h
        · cases h
          exact ⟨hm.1, Nat.mod_lt _ (by decide)⟩
    rw [if_neg h4] at h
    by_cases hb : f = 2 ∨ f = 3 ∨ f = 5 ∨ f = 6 ∨ f = 7
    · rw [if_pos hb] at h
      by_cases hw : wt ≠ 2
      · rw [if_pos hw] at h; cases h
      rw [if_neg hw] at h
      cases hl : decLenDelim r with
      | none => rw [hl] at h; cases h
      | some q =>
        rw [hl] at h
        cases h
        (repeat' split) <;> exact hm
    rw [if_neg hb] at h
    split at h
    · cases h
    · cases h; exact hm

theorem decMetaInto_num (bs : Bytes) (m0 m : MetaData) (h : decMetaInto bs m0 = some m) (h0 : MetaNum m0) : MetaNum m :=
  decLoop_inv decMetaStep MetaNum decMetaStep_num _ _ _ _ h0 h

theorem numOK_default : NumOK ({} : Token) := ⟨by decide, fun m hm => by cases hm⟩

theorem decTokenStep_num (bs : Bytes) (t : Token) (rest : Bytes) (t' : Token)
    (h : decTokenStep bs t = some (rest, t')) (ht : NumOK t) : NumOK t' := by
  unfold decTokenStep at h
  cases hd : decTag bs with
  | none => rw [hd] at h; cases h
  | some p =>
    obtain ⟨f, wt, r⟩ := p
    rw [hd] at h
    dsimp only at h
    by_cases h1 : f = 1
    · rw [if_pos h1] at h
      split at h
      · cases h
      · split at h
        · cases h
        · cases h
          exact ⟨Nat.mod_lt _ (by decide), ht.md⟩
    rw [if_neg h1] at h
    by_cases h2 : f = 2
    · rw [if_pos h2] at h
      split at h
      · cases h
      · split at h
        · cases h
        · split at h
          · cases h
          · cases h; exact ⟨ht.type, ht.md⟩
    rw [if_neg h2] at h
    by_cases h3 : f = 3
    · rw [if_pos h3] at h
      split at h
      · cases h
      · split at h
        · cases h
        · cases h; exact ⟨ht.type, ht.md⟩
    rw [if_neg h3] at h
    by_cases h4 : f = 4
    · rw [if_pos h4] at h
      split at h
      · cases h
      · split at h
        · cases h
        · split at h
          · cases h
          · rename_i b r' _ m hmeta
            cases h
            refine ⟨ht.type, ?_⟩
            intro m2 hm2
            cases hm2
            have h0 : MetaNum (t.md.getD {}) := by
              cases hmd : t.md with
              | none => exact ⟨by decide, by decide⟩
              | some m0 => exact ht.md m0 hmd
            exact decMetaInto_num _ _ _ hmeta h0
    rw [if_neg h4] at h
    by_cases h5 : f = 5
    · rw [if_pos h5] at h
      split at h
      · cases h
      · split at h
        · cases h
        · cases h; exact ⟨ht.type, ht.md⟩
    rw [if_neg h5] at h
    split at h
    · cases h
    · cases h; exact ht

/-- (B) -/
theorem decToken_num (raw : Bytes) (t : Token) (h : decToken raw = some t) : NumOK t :=
  decLoop_inv decTokenStep NumOK decTokenStep_num _ _ _ _ numOK_default h

end Esdt
