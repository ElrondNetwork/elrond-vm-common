/-
  Proofs/UnifiedMeta.lean — metadata in the ONE world that mixes all 23 functions (Proofs/Unified.lean): every copy of an
  NFT — stored on any shard, in flight as the payload of an ESDTNFTTransfer message or as an item of a
  MultiESDTNFTTransfer message — keeps the metadata `m0` along every history, whatever else happens in between; the only
  steps that may change it are ESDTNFTAddURI / ESDTNFTUpdateAttributes aimed at that very NFT (excluded here; what they do
  is C08.addURI_exact / updateAttributes_exact).  The step theorems of the two transfer worlds (Proofs/NetworkMeta,
  Proofs/NetworkMultiMeta) and of the supply operations (Proofs/MetaHistory) are reused on the shared shards.
-/
import Proofs.Unified
import Proofs.NetworkMeta
import Proofs.NetworkMultiMeta
import Proofs.MetaHistory
import Proofs.Gated
namespace Esdt

variable {m0 : MetaData} {k : Bytes}

theorem ntc_allMd (m0 : MetaData) {k : Bytes} (hk : TokKey k) : NTC (AllMd m0 k) := by
  refine ⟨fun A a k1 v hk1 h => allMd_write_other a k1 v h (fun he => hk1 (he ▸ hk)), fun A a x hx h => ?_⟩
  intro a2 t hne hdec
  rw [read_set_fields A a x hx] at hne hdec
  exact h a2 t hne hdec

/-! ### ESDTTransfer of a token whose fungible key is not `k` -/

theorem allMd_addToESDTBalance (a k1 : Bytes) (d : Int) (rae : Bool) (hne : k1 ≠ k) :
    Pres (AllMd m0 k) (addToESDTBalance a k1 d rae) :=
  gated_addToESDTBalance d fun _ v hs _ => allMd_write_other a k1 v hs hne

theorem allMd_esdtTransfer (env : Env) (c : Call) (hkk : ∀ tok, c.args[0]? = some tok → esdtKeyPrefix ++ tok ≠ k) :
    Pres (AllMd m0 k) (esdtTransfer env c) :=
  comp_esdtTransfer Pres.comp env c (fun tok h0 a d _ => allMd_addToESDTBalance a _ d _ (hkk tok h0))

/-- a step of the ESDTTransfer world keeps `AllMd` on every shard and keeps every message in flight off key `k` -/
theorem nstep_md (m0 : MetaData) (k : Bytes) (e : Env) (w : NWorld) (st : NStep)
    (hW : ∀ A ∈ w.shards, AllMd m0 k A) (hF : ∀ m ∈ w.inflight, m.key ≠ k)
    (hok : ∀ c, st = .user c → ∀ tok, c.args[0]? = some tok → esdtKeyPrefix ++ tok ≠ k) :
    (∀ A ∈ (nstep e w st).shards, AllMd m0 k A) ∧ ∀ m ∈ (nstep e w st).inflight, m.key ≠ k := by
  refine (nstep_move e w st).all hW hF ?_ ?_ (fun m hm _ => hF m hm)
  · intro c out A ctx' hst hr
    have hkk := hok c hst
    refine ⟨(allMd_esdtTransfer _ c hkk { accts := A } (hW A hr.mem)).elim hr.run, fun m hm => ?_⟩
    -- the message sent names the token of argument 0
    simp only [ftWire] at hm
    split at hm
    · cases hm
    · split at hm
      · rename_i tok amt rest hargs
        rw [List.mem_singleton.mp hm]
        exact hkk tok (by rw [hargs]; rfl)
      · cases hm
  · intro i m c out A ctx' hm hl hr
    refine (allMd_esdtTransfer _ c (fun tok ht => ?_) { accts := A } (hW A hr.mem)).elim hr.run
    cases hl <;> (cases ht; exact hF m hm)

/-! ### the 20 other functions -/

theorem allMd_write_undec {A : Accts} (a k1 v : Bytes) (hA : AllMd m0 k A) (hv : decToken v = none) :
    AllMd m0 k (A.write a k1 v) := by
  intro a2 t hne hdec
  rw [Accts.read_write] at hne hdec
  split at hne
  · rename_i he
    rw [if_pos he, hv] at hdec
    cases hdec
  · rename_i he
    rw [if_neg he] at hdec
    exact hA a2 t hne hdec

/-- what is assumed of a call of a non-transfer function for the NFT stored under key `k`: token identifiers do not alias
    (a fungible operation is not aimed at `k`), a create does not issue a nonce whose key is `k` (nonces are fresh: C07),
    and add URI / update attributes are aimed at another entry -/
structure LocalMdOK (k : Bytes) (env : Env) (f : FnId) (c : Call) : Prop where
  supply : ∀ op, supplyOpOf f = some op → MStepOK k ⟨op, env, c⟩
  metaFn : (f = .nftAddURI ∨ f = .nftUpdateAttributes) → ∀ tok nb, c.args[0]? = some tok → c.args[1]? = some nb →
    nftKey (esdtKeyPrefix ++ tok) (u64 (beNat nb)) ≠ k

theorem local_md_step (m0 : MetaData) (k : Bytes) (hk : TokKey k) (f : FnId) (env : Env) (c : Call) (A : Accts)
    (out : VMOutput) (ctx' : Ctx) (hI : SInv A) (hM : AllMd m0 k A) (ok : LocalOK env f c A) (okm : LocalMdOK k env f c)
    (h : exec env f c { accts := A } = .ok (out, ctx')) : AllMd m0 k ctx'.accts := by
  have supplyCase : ∀ op, supplyOpOf f = some op → op.run env c { accts := A } = .ok (out, ctx') →
      AllMd m0 k ctx'.accts := fun op hop hrun =>
    meta_step m0 k op env c A out ctx' hk hI hM (okm.supply op hop) hrun
  have plainCase : PlainFn f → AllMd m0 k ctx'.accts := fun hf =>
    plain_pres (ntc_allMd m0 hk) hf env c { accts := A } ctx' out hM h
  have pauseCase : ∀ p, esdtPause p env c { accts := A } = .ok (out, ctx') → AllMd m0 k ctx'.accts := by
    intro p hrun
    obtain ⟨tok, _, hw⟩ := (pause_effect p env c { accts := A }).elim hrun
    simp only at hw
    rw [hw]; exact allMd_write_undec _ _ _ hM (decToken_flagBytes p)
  have metaCase : ∀ {tok nb : Bytes} {t : Token} {m m' : MetaData}, c.args[0]? = some tok → c.args[1]? = some nb →
      MetaWrite A ctx'.accts c.caller (esdtKeyPrefix ++ tok) (u64 (beNat nb)) t m m' →
      (m.nonce = 0 ∨ m.nonce = u64 (beNat nb)) → (f = .nftAddURI ∨ f = .nftUpdateAttributes) →
      AllMd m0 k ctx'.accts := by
    intro tok nb t m m' h0 h1 hw hnon hf
    have hpos : m.nonce ≠ 0 := hI.mdpos _ _ t m (tokKey_nft _ _) hw.present hw.old hw.hasMeta
    have hmn : m.nonce = u64 (beNat nb) := by
      rcases hnon with h' | h'
      · exact absurd h' hpos
      · exact h'
    rw [hw.written, hmn]
    exact allMd_write_other _ _ _ hM (okm.metaFn hf tok nb h0 h1)
  have hnt := ok.notTransfer
  unfold exec at h
  cases f <;> simp only [runFn] at h
  · exact plainCase .claim
  · exact plainCase .owner
  · exact plainCase .name
  · exact plainCase .skv
  · exact pauseCase true h
  · exact pauseCase false h
  · cases hnt
  · exact supplyCase .burn rfl h
  · exact supplyCase .freeze rfl h
  · exact supplyCase .unfreeze rfl h
  · exact supplyCase .wipe rfl h
  · exact plainCase .unSetRole
  · exact plainCase .setRole
  · exact supplyCase .localBurn rfl h
  · exact supplyCase .mint rfl h
  · exact supplyCase .addQty rfl h
  · exact supplyCase .nftBurn rfl h
  · exact supplyCase .create rfl h
  · cases hnt
  · exact plainCase .handOver
  · obtain ⟨⟨tok, nb, attrs, t, m, h0, h1, h2, hn0, hw⟩, hnon⟩ :=
      (Post.and (updateAttributes_effect env c { accts := A }) (updateAttributes_nonce env c { accts := A })).elim h
    exact metaCase h0 h1 hw (hnon tok nb t m h0 h1 hw.old hw.hasMeta) (Or.inr rfl)
  · obtain ⟨⟨tok, nb, t, m, h0, h1, hn0, hw⟩, hnon⟩ :=
      (Post.and (addURI_effect env c { accts := A }) (addURI_nonce env c { accts := A })).elim h
    exact metaCase h0 h1 hw (hnon tok nb t m h0 h1 hw.old hw.hasMeta) (Or.inl rfl)
  · cases hnt

/-! ### the world -/

/-- the metadata invariant of the mixed world for one NFT (key `k`, metadata `m0`) -/
structure UMdInv (m0 : MetaData) (k : Bytes) (w : UWorld) : Prop where
  shards : ∀ A ∈ w.shards, AllMd m0 k A
  ft : ∀ m ∈ w.ft, m.key ≠ k
  nft : ∀ m ∈ w.nft, MsgMd m0 k m
  multi : ∀ m ∈ w.multi, MMsgMd m0 k m

/-- what is assumed of a step for the NFT under key `k` -/
def UMdStepOK (e : Env) (k : Bytes) : UStep → Prop
  | .ft (.user c) => ∀ tok, c.args[0]? = some tok → esdtKeyPrefix ++ tok ≠ k
  | .call s f c => LocalMdOK k { e with self := s } f c
  | _ => True

theorem ustep_md (m0 : MetaData) (k : Bytes) (hk : TokKey k) (e : Env) (w : UWorld) (st : UStep) (hI : UInv e w)
    (hM : UMdInv m0 k w) (hok : UStepOK e w st) (hmk : UMdStepOK e k st) : UMdInv m0 k (ustep e w st) := by
  cases st with
  | ft st =>
    obtain ⟨h1, h2⟩ := nstep_md m0 k e w.toN st hM.shards hM.ft (fun c hc => by subst hc; exact hmk)
    exact ⟨h1, h2, hM.nft, hM.multi⟩
  | nft st =>
    have h := nftStep_md m0 k e w.toNFT st hI.toNFT ⟨hM.shards, hM.nft⟩ hok
    exact ⟨h.shards, hM.ft, h.msgs, hM.multi⟩
  | multi st =>
    have h := multiStep_md m0 k e w.toM st hI.toM ⟨hM.shards, hM.multi⟩ hok
    exact ⟨h.shards, hM.ft, hM.nft, h.msgs⟩
  | call s f c =>
    simp only [ustep]
    cases hA : w.shards[s]? with
    | none => exact hM
    | some A =>
      simp only []
      cases hex : exec { e with self := s } f c { accts := A } with
      | ok p =>
        obtain ⟨out, ctx'⟩ := p
        simp only []
        have hAm := List.mem_of_getElem? hA
        have := local_md_step m0 k hk f { e with self := s } c A out ctx' (hI.shards A hAm) (hM.shards A hAm)
          (hok A hA) hmk hex
        exact ⟨mem_set_of _ _ _ _ hM.shards this, hM.ft, hM.nft, hM.multi⟩
      | err er => exact hM
      | panic => exact hM

/-- every step is admissible for the NFT under `k` -/
def UMdStepsOK (e : Env) (k : Bytes) (steps : List UStep) : Prop := ∀ st ∈ steps, UMdStepOK e k st

/-- FULL over histories of the mixed world -/
theorem unified_md_history (m0 : MetaData) (k : Bytes) (hk : TokKey k) (e : Env) :
    ∀ (steps : List UStep) (w : UWorld), UInv e w → UStepsOK e steps w → UMdStepsOK e k steps → UMdInv m0 k w →
      UMdInv m0 k (urun e steps w).1 :=
  urun_pres e (R := fun steps _ => UMdStepsOK e k steps) fun st _ w hI hok hR hM =>
    ⟨ustep_md m0 k hk e w st hI hM hok (hR st List.mem_cons_self), fun s hs => hR s (List.mem_cons_of_mem _ hs)⟩

end Esdt
