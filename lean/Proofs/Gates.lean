/-
  Proofs/Gates.lean — the pause gate of the NFT functions (C04), read off their specifications (every write goes through
  `saveESDTNFTToken`, which evaluates the gate on the token key), and the payability checks of the multi transfer (C09).
-/
import Proofs.Metadata
namespace Esdt

/-- the token of key `ELRONDesdt‖tok` is not paused on this shard — unless the call is exempt for account `a` -/
def PauseOpen (A : Accts) (c : Call) (a tok : Bytes) : Prop :=
  c.rae = false → a ≠ esdtSCAddress → pausedIn A (esdtKeyPrefix ++ tok) = false

theorem GateOpen.pause {A : Accts} {a tok : Bytes} {t : Token} {c : Call}
    (h : GateOpen A a (esdtKeyPrefix ++ tok) t c.rae) : PauseOpen A c a tok :=
  fun hr ha => (h hr ha).2

theorem pause_nftCreate (env : Env) (c : Call) (ctx : Ctx) :
    Post (esdtNFTCreate env c) ctx (fun _ _ => ∃ tok, c.args[0]? = some tok ∧ PauseOpen ctx.accts c c.caller tok) := by
  apply (nftCreate_spec env c ctx).mono
  rintro _ _ ⟨tok, _, _, _, _, _, _, _, h0, _, _, _, _, _, _, _, _, _, _, _, saved, _⟩
  exact ⟨tok, h0, saved.gate.pause⟩

theorem pause_addURI (env : Env) (c : Call) (ctx : Ctx) :
    Post (esdtNFTAddURI env c) ctx (fun _ _ => ∃ tok, c.args[0]? = some tok ∧ PauseOpen ctx.accts c c.caller tok) := by
  apply (addURI_spec env c ctx).mono
  rintro _ _ ⟨tok, _, _, _, h0, _, _, _, _, _, saved⟩
  exact ⟨tok, h0, saved.gate.pause⟩

theorem pause_updateAttributes (env : Env) (c : Call) (ctx : Ctx) :
    Post (esdtNFTUpdateAttributes env c) ctx (fun _ _ => ∃ tok, c.args[0]? = some tok ∧ PauseOpen ctx.accts c c.caller tok) := by
  apply (updateAttributes_spec env c ctx).mono
  rintro _ _ ⟨tok, _, _, _, _, h0, _, _, _, _, _, _, saved⟩
  exact ⟨tok, h0, saved.gate.pause⟩

/-- sender side of ESDTNFTTransfer (debit) -/
theorem pause_nftTransferSender (env : Env) (c : Call) (ctx : Ctx) (_hs : present env.nshards env.self c.caller = true) :
    Post (esdtNFTTransferSender env c) ctx (fun _ _ => ∃ tok, c.args[0]? = some tok ∧ PauseOpen ctx.accts c c.caller tok) := by
  apply (nftTransferSender_spec env c ctx).mono
  rintro _ _ ⟨tok, _, _, _, _, _, _, _, h0, _, _, _, _, _, _, _, _, _, _, saved, _⟩
  exact ⟨tok, h0, saved.gate.pause⟩

/-- destination side of ESDTNFTTransfer (credit) -/
theorem pause_nftTransferDest (env : Env) (c : Call) (ctx : Ctx) (hne : c.caller ≠ c.rcv) :
    Post (esdtNFTTransfer env c) ctx (fun _ _ => ∃ tok, c.args[0]? = some tok ∧ PauseOpen ctx.accts c c.rcv tok) := by
  apply Post.mono (nftTransfer_dest_effect env c ctx hne)
  intro _ _ ⟨tok, _, t, cur, _, _, h0, _, _, _, _, _, _, hg, _⟩
  exact ⟨tok, h0, hg.pause⟩

/-- one sender-side item of a multi transfer -/
theorem pause_transferOne (env : Env) (c : Call) (l : Bool) (dst tok : Bytes) (n q : Nat) (v : Bool) (ctx : Ctx) :
    Post (transferOne env c l dst tok n q v) ctx (fun _ _ => PauseOpen ctx.accts c c.caller tok) := by
  apply (transferOne_spec env c l dst tok n q v ctx).mono
  rintro _ _ ⟨_, _, _, _, _, _, _, saved, _⟩
  exact saved.gate.pause

end Esdt

namespace Esdt

/-! ### payability at the destination side of a multi transfer (C09) -/

/-- the first item of the destination loop already asks the payability oracle (fungible items through
    `verifyPayableIf`, NFT items inside `addNFTToDestination`) -/
theorem multiDestLoop_payable (env : Env) (c : Call) (m n idx : Nat) (ctx : Ctx) :
    Post (multiDestLoop env c m (n + 1) idx) ctx (fun _ _ => mustVerifyPayable c m = true → env.payable c.rcv = .yes) := by
  unfold multiDestLoop
  xsteps
  split
  · xsteps
    apply Post.mono (spec_unmarshalToken _ ctx)
    intro t c1 _
    xsteps
    apply Post.mono (spec_addNFTToDestination env c.rcv t _ _ _ c1)
    intro _ c2 ⟨_, _, _, _, hp, _⟩
    apply Post.intro; intro _ _; exact hp
  · xsteps
    apply Post.mono (spec_verifyPayableIf env _ c.rcv ctx)
    intro _ c1 ⟨_, hp⟩
    apply Post.intro; intro _ _; exact hp

/-- destination side of MultiESDTNFTTransfer: a successful execution verified the payability of the destination whenever
    verification is required (threshold = the bare multi transfer's argument count 3n+1) -/
theorem multiTransfer_dest_payable (env : Env) (c : Call) (ctx : Ctx) (hne : c.caller ≠ c.rcv) :
    Post (multiTransfer env c) ctx (fun _ _ => ∃ a0, c.args[0]? = some a0 ∧
      (mustVerifyPayable c (u64 (u64 (u64 (beNat a0) * 3) + 1)) = true → env.payable c.rcv = .yes)) := by
  unfold multiTransfer checkBasic
  simp only [hne, if_false]
  xsteps
  rename_i a0 h0 hz _ _
  have hpos : u64 (beNat a0) ≠ 0 := of_decide_eq_false hz
  obtain ⟨k, hk⟩ := Nat.exists_eq_succ_of_ne_zero hpos
  rw [hk]
  apply Post.mono (multiDestLoop_payable env c _ k 1 ctx)
  intro _ _ hp
  apply Post.intro; intro _ _
  exact ⟨a0, h0, by rw [← hk] at hp; exact hp⟩

end Esdt

namespace Esdt

/-- with the destination on the same shard, the credit of the first item already asks the oracle when told to -/
theorem multiSenderLoop_payable (env : Env) (c : Call) (dst : Bytes) (v : Bool) (n idx : Nat) (ctx : Ctx) :
    Post (multiSenderLoop env c true dst v (n + 1) idx) ctx (fun _ _ => v = true → env.payable dst = .yes) := by
  unfold multiSenderLoop
  xsteps
  apply (transferOne_spec env c true dst _ _ _ v ctx).mono
  rintro _ _ ⟨_, _, _, _, _, _, _, _, _, ht⟩
  obtain ⟨_, _, _, cr⟩ := ht rfl
  exact Post.intro fun _ _ => cr.payable

/-- sender side of MultiESDTNFTTransfer with the destination on the executing shard -/
theorem multiTransferSender_sameShard_payable (env : Env) (c : Call) (ctx : Ctx)
    (hs : present env.nshards env.self c.caller = true)
    (hx : ∀ d, c.args[0]? = some d → env.self = shardOf env.nshards d) :
    Post (multiTransferSender env c) ctx (fun _ _ => ∃ dst a1, c.args[0]? = some dst ∧ c.args[1]? = some a1 ∧
      (mustVerifyPayable c (u64 (u64 (u64 (beNat a1) * 3) + 2)) = true → env.payable dst = .yes)) := by
  unfold multiTransferSender
  simp only [hs, Bool.not_true, Bool.false_eq_true, if_false]
  xsteps
  rename_i dst h0 _ _ _ a1 h1 hz _ _ _
  have hxx := hx dst h0
  simp only [hxx, decide_true, if_true]
  have hpos : u64 (beNat a1) ≠ 0 := of_decide_eq_false hz
  obtain ⟨k, hk⟩ := Nat.exists_eq_succ_of_ne_zero hpos
  xsteps
  apply Post.mono (comp_loadAcct RO.comp ctx)
  intro _ c1 _
  xsteps
  rw [hk]
  apply Post.mono (multiSenderLoop_payable env c dst _ k 2 c1)
  intro _ _ hp
  apply Post.intro; intro _ _
  exact ⟨dst, a1, h0, h1, by rw [← hk] at hp; exact hp⟩

end Esdt
