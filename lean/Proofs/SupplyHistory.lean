/-
  Proofs/SupplyHistory.lean — C02 over operation sequences: for the functions that change a token's supply (local mint,
  local burn, burn, NFT create, add quantity, NFT burn, wipe) and the toggles freeze / unfreeze, a successful call on a
  well-formed shard state changes the shard's per-key sum of balances by EXACTLY the stated amount — under the stated key,
  by nothing under any other key — and keeps the state well-formed; hence along any sequence of such calls (failed ones
  rolled back) the sum is the initial sum plus the sum of the stated amounts.
-/
import Proofs.NetworkNFT
import Proofs.NetworkMulti
namespace Esdt

inductive SupplyOp
  | mint | localBurn | burn | create | addQty | nftBurn | wipe | freeze | unfreeze
deriving DecidableEq, Repr

def SupplyOp.run : SupplyOp → Env → Call → M VMOutput
  | .mint => esdtLocalMint
  | .localBurn => esdtLocalBurn
  | .burn => esdtBurn
  | .create => esdtNFTCreate
  | .addQty => esdtNFTAddQuantity
  | .nftBurn => esdtNFTBurn
  | .wipe => esdtFreezeWipe .wipe
  | .freeze => esdtFreezeWipe .freeze
  | .unfreeze => esdtFreezeWipe .unfreeze

/-- the amount the property states for each operation, under the key it states it for (pre-state `A`, result `out`) -/
def supplyDelta (op : SupplyOp) (c : Call) (A : Accts) (out : VMOutput) (k : Bytes) : Int :=
  match op, c.args with
  | .mint, tok :: amt :: _ => if esdtKeyPrefix ++ tok = k then (beNat amt : Int) else 0
  | .localBurn, tok :: amt :: _ => if esdtKeyPrefix ++ tok = k then - (beNat amt : Int) else 0
  | .burn, tok :: amt :: _ => if esdtKeyPrefix ++ tok = k then - (beNat amt : Int) else 0
  | .create, tok :: qty :: _ =>
    -- the given quantity under the fresh nonce (what was stored there before — nothing, under single-creator
    -- discipline — is overwritten)
    (match out.ret with
     | [nb] => if nftKey (esdtKeyPrefix ++ tok) (beNat nb) = k then (beNat qty : Int) - balOf (A.read c.caller k) else 0
     | _ => 0)
  | .addQty, tok :: nb :: qb :: _ => if nftKey (esdtKeyPrefix ++ tok) (u64 (beNat nb)) = k then (beNat qb : Int) else 0
  | .nftBurn, tok :: nb :: qb :: _ => if nftKey (esdtKeyPrefix ++ tok) (u64 (beNat nb)) = k then - (beNat qb : Int) else 0
  | .wipe, tok :: _ => if esdtKeyPrefix ++ tok = k then - balOf (A.read c.rcv k) else 0
  | _, _ => 0

/-- an NFT / SFT slot rewritten with a new quantity on a well-formed shard -/
theorem nftWrite_step {A A' : Accts} {a tok : Bytes} {n : Nat} {t : Token} {v v' : Int}
    (hw : NftWrite A A' a (esdtKeyPrefix ++ tok) n t v v') (hI : SInv A) (hS' : Short A') (h0 : 0 ≤ v')
    (hnon : ∀ m, t.md = some m → m.nonce = 0 ∨ m.nonce = n) :
    SInv A' ∧ ∀ k, balAt A' k = balAt A k + (if nftKey (esdtKeyPrefix ++ tok) n = k then v' - v else 0) := by
  have hnonce : mdNonce t = n := hw.ownNonce hI.mdpos hnon
  obtain ⟨hI', hb⟩ := nftSlot_step hI a tok t v' h0 (decToken_num _ _ hw.old)
    (fun md hmd => hI.mdpos _ _ t md (tokKey_nft _ _) hw.present hw.old hmd) hw.written hS'
  refine ⟨hI', fun k => ?_⟩
  rw [hb k, hnonce, balOf_dec hw.present hw.old hw.value]

end Esdt

namespace Esdt

/-- the lookup of add-quantity / burn only accepts an entry whose metadata says the nonce asked for (or nonce 0) -/
theorem addQuantity_nonce (env : Env) (c : Call) (ctx : Ctx) :
    Post (esdtNFTAddQuantity env c) ctx (fun _ _ => ∀ tok nb t m, c.args[0]? = some tok → c.args[1]? = some nb →
      decToken (ctx.accts.read c.caller (nftKey (esdtKeyPrefix ++ tok) (u64 (beNat nb)))) = some t → t.md = some m →
      m.nonce = 0 ∨ m.nonce = u64 (beNat nb)) := by
  unfold esdtNFTAddQuantity checkCreateBurnAdd checkBasic
  xsteps
  rename_i tok0 ha0
  apply Post.mono (comp_checkAllowed RO.comp _ _ _ ctx)
  intro _ c1 h1
  xsteps
  rename_i nb0 ha1 _
  apply Post.mono (spec_getNFTOnSender _ _ _ c1)
  intro t c2 ⟨_, _, hdec, _, hnon⟩
  apply Post.intro
  intro _ _ tok nb t' m h0 h1' hdec' hm
  rw [ha0] at h0; cases h0
  rw [ha1] at h1'; cases h1'
  rw [h1, hdec'] at hdec; cases hdec
  exact hnon m hm

theorem nftBurn_nonce (env : Env) (c : Call) (ctx : Ctx) :
    Post (esdtNFTBurn env c) ctx (fun _ _ => ∀ tok nb t m, c.args[0]? = some tok → c.args[1]? = some nb →
      decToken (ctx.accts.read c.caller (nftKey (esdtKeyPrefix ++ tok) (u64 (beNat nb)))) = some t → t.md = some m →
      m.nonce = 0 ∨ m.nonce = u64 (beNat nb)) := by
  unfold esdtNFTBurn checkCreateBurnAdd checkBasic
  xsteps
  rename_i tok0 ha0
  apply Post.mono (comp_checkAllowed RO.comp _ _ _ ctx)
  intro _ c1 h1
  xsteps
  rename_i nb0 ha1 _
  apply Post.mono (spec_getNFTOnSender _ _ _ c1)
  intro t c2 ⟨_, _, hdec, _, hnon⟩
  apply Post.intro
  intro _ _ tok nb t' m h0 h1' hdec' hm
  rw [ha0] at h0; cases h0
  rw [ha1] at h1'; cases h1'
  rw [h1, hdec'] at hdec; cases hdec
  exact hnon m hm

end Esdt

namespace Esdt

theorem mdpos_write_nil {A : Accts} (a k : Bytes) (hA : MdPos A) : MdPos (A.write a k []) := by
  intro a2 k2 t0 m hk2 hne hdec hm
  rw [Accts.read_write] at hne hdec
  split at hne
  · exact absurd rfl hne
  · rename_i he
    rw [if_neg he] at hdec
    exact hA a2 k2 t0 m hk2 hne hdec hm

theorem mdpos_write_nontok {A : Accts} (a k v : Bytes) (hA : MdPos A) (hk : ¬ TokKey k) : MdPos (A.write a k v) := by
  intro a2 k2 t0 m hk2 hne hdec hm
  rw [Accts.read_write] at hne hdec
  have he : ¬ (a = a2 ∧ k = k2) := fun h => hk (h.2 ▸ hk2)
  rw [if_neg he] at hne hdec
  exact hA a2 k2 t0 m hk2 hne hdec hm

theorem mdpos_write_storedP {A : Accts} (a k : Bytes) (t : Token) (p : Bytes) (hA : MdPos A)
    (hold : tokenOf (A.read a k) = some t)
    (hl : (storedForm { t with properties := p }).length < two63) :
    MdPos (A.write a k (storedForm { t with properties := p })) := by
  intro a2 k2 t0 m hk2 hne hdec hm
  rw [Accts.read_write] at hne hdec
  by_cases he : a = a2 ∧ k = k2
  · rw [if_pos he] at hne hdec
    unfold storedForm at hne hdec hl
    split at hne
    · exact absurd rfl hne
    · rename_i hz
      rw [if_neg hz] at hdec hl
      rw [roundtrip_of_length _ ((tokenOf_num hold).withProps _) hl] at hdec
      cases hdec
      have hm' : t.md = some m := hm
      unfold tokenOf at hold
      split at hold
      · cases hold; cases hm'
      · rename_i hraw
        exact hA a k t m (he.2 ▸ hk2) hraw hold hm'
  · rw [if_neg he] at hne hdec
    exact hA a2 k2 t0 m hk2 hne hdec hm

/-- reading back what `saveESDTData` stored -/
theorem balOf_storedForm_len (t : Token) (v : Int) (hv : t.value = some v) (hn : NumOK t)
    (hl : (storedForm t).length < two63) : balOf (storedForm t) = v := by
  unfold storedForm at hl ⊢
  split
  · rename_i hz
    rw [balOf_nil]
    have := hz.1
    rw [hv] at this
    cases this; rfl
  · rename_i hz
    rw [if_neg hz] at hl
    simp [balOf, tokenOf, encToken_ne_nil, roundtrip_of_length t hn hl, hv]

theorem tokKey_not_nonce (tok k : Bytes) (hk : TokKey k) : nonceKeyPrefix ++ tok ≠ k := by
  intro he
  exact not_tokKey_nonce tok (he ▸ hk)

end Esdt

namespace Esdt

/-- freeze / unfreeze rewrite the flag bytes of one fungible entry: the shard stays well-formed and its per-key sums are
    what they were -/
theorem toggleFreeze_step (kind : FreezeKind) (hk : kind ≠ .wipe) (env : Env) (c : Call) (A : Accts) (out : VMOutput)
    (ctx' : Ctx) (hI : SInv A) (hrsys : c.rcv ≠ systemAccountAddress)
    (h : esdtFreezeWipe kind env c { accts := A } = .ok (out, ctx')) (hS' : Short ctx'.accts) :
    SInv ctx'.accts ∧ ∀ k, balAt ctx'.accts k = balAt A k := by
  have hC' := (canon_toggleFreeze env c { accts := A } ctx' out kind hk hI.canon h).toCanon hS'
  obtain ⟨tok, t, h0, _, ht, _, hw⟩ := (toggleFreeze_effect kind hk env c { accts := A }).elim h
  simp only at hw ht
  obtain ⟨⟨v, hv, _⟩, _⟩ := hI.canon.read (tokKey_esdt tok) hrsys ht
  have hl := hS' c.rcv (esdtKeyPrefix ++ tok)
  rw [hw, Accts.read_write, if_pos ⟨rfl, rfl⟩] at hl
  refine ⟨⟨by rw [hw]; exact Accts.write_nodup _ hI.nodup _ _ _, hC', hS',
    by rw [hw]; exact mdpos_write_storedP _ _ _ _ hI.mdpos ht hl⟩, fun k => ?_⟩
  rw [hw, balAt_write A hI.nodup,
    balOf_storedForm_len { t with properties := flagBytes (kind == .freeze) } v hv ((tokenOf_num ht).withProps _) hl,
    balOf_old ht hv]
  split <;> omega

/-- FULL per call: each supply operation moves the shard's per-key sum of balances by exactly the stated amount and keeps
    the shard state well-formed -/
theorem supply_step (op : SupplyOp) (env : Env) (c : Call) (A : Accts) (out : VMOutput) (ctx' : Ctx) (hI : SInv A)
    (hcsys : c.caller ≠ systemAccountAddress) (hrsys : c.rcv ≠ systemAccountAddress)
    (hwrap : op = .create → ∀ tok, c.args[0]? = some tok →
      counterOf (A.read c.caller (nonceKeyPrefix ++ tok)) + 1 < two64)
    (h : op.run env c { accts := A } = .ok (out, ctx')) :
    SInv ctx'.accts ∧ ∀ k, TokKey k → balAt ctx'.accts k = balAt A k + supplyDelta op c A out k := by
  cases op with
  | mint =>
    have hS' : Short ctx'.accts := (short_runFn .localMint env c nofun { accts := A } hI.short).elim h
    obtain ⟨tok, amt, t, v, h0, h1, hw, _⟩ := (localMint_effect env c { accts := A }).elim h
    obtain ⟨rest, hargs⟩ := args_cons2 h0 h1
    obtain ⟨hI', hb⟩ := oneWrite_step hw hI hS'
    exact ⟨hI', fun k _ => by rw [hb k]; simp only [supplyDelta, hargs]⟩
  | localBurn =>
    have hS' : Short ctx'.accts := (short_runFn .localBurn env c nofun { accts := A } hI.short).elim h
    obtain ⟨tok, amt, t, v, h0, h1, hw, _⟩ := (localBurn_effect env c { accts := A }).elim h
    obtain ⟨rest, hargs⟩ := args_cons2 h0 h1
    obtain ⟨hI', hb⟩ := oneWrite_step hw hI hS'
    exact ⟨hI', fun k _ => by rw [hb k]; simp only [supplyDelta, hargs]⟩
  | burn =>
    have hS' : Short ctx'.accts := (short_runFn .esdtBurn env c nofun { accts := A } hI.short).elim h
    obtain ⟨tok, amt, t, v, h0, h1, hw, _⟩ := (esdtBurn_effect env c { accts := A }).elim h
    obtain ⟨rest, hargs⟩ := args_cons2 h0 h1
    obtain ⟨hI', hb⟩ := oneWrite_step hw hI hS'
    exact ⟨hI', fun k _ => by rw [hb k]; simp only [supplyDelta, hargs]⟩
  | addQty =>
    have hS' : Short ctx'.accts := (short_runFn .nftAddQuantity env c nofun { accts := A } hI.short).elim h
    obtain ⟨tok, nb, qb, t, v, h0, h1, h2, hn0, hw, _⟩ := (addQuantity_effect env c { accts := A }).elim h
    obtain ⟨rest, hargs⟩ := args_cons3' h0 h1 h2
    have hnon := fun m hm => (addQuantity_nonce env c { accts := A }).elim h tok nb t m h0 h1 hw.old hm
    have hv0 : 0 ≤ v := by
      have ht : tokenOf (A.read c.caller (nftKey (esdtKeyPrefix ++ tok) (u64 (beNat nb)))) = some t := by
        simp [tokenOf, hw.present, hw.old]
      obtain ⟨⟨v', hv', h0'⟩, _⟩ := hI.canon.read (tokKey_nft tok _) hcsys ht
      rw [hw.value] at hv'; cases hv'; exact h0'
    obtain ⟨hI', hb⟩ := nftWrite_step hw hI hS' (by omega) hnon
    refine ⟨hI', fun k _ => ?_⟩
    rw [hb k]; simp only [supplyDelta, hargs]
    split <;> omega
  | nftBurn =>
    have hS' : Short ctx'.accts := (short_runFn .nftBurn env c nofun { accts := A } hI.short).elim h
    obtain ⟨tok, nb, qb, t, v, h0, h1, h2, hn0, hle, hw, _⟩ := (nftBurn_effect env c { accts := A }).elim h
    obtain ⟨rest, hargs⟩ := args_cons3' h0 h1 h2
    have hnon := fun m hm => (nftBurn_nonce env c { accts := A }).elim h tok nb t m h0 h1 hw.old hm
    obtain ⟨hI', hb⟩ := nftWrite_step hw hI hS' (by omega) hnon
    refine ⟨hI', fun k _ => ?_⟩
    rw [hb k]; simp only [supplyDelta, hargs]
    split <;> omega
  | wipe =>
    have hS' : Short ctx'.accts := (short_runFn .esdtWipe env c nofun { accts := A } hI.short).elim h
    have hC' := (canon_wipe env c { accts := A } ctx' out hI.canon h).toCanon hS'
    obtain ⟨tok, t, h0, _, _, _, hw⟩ := (wipe_effect env c { accts := A }).elim h
    obtain ⟨rest, hargs⟩ := cons_of_getElem?_zero h0
    simp only at hw
    refine ⟨⟨by rw [hw]; exact Accts.write_nodup _ hI.nodup _ _ _, hC', hS', by rw [hw]; exact mdpos_write_nil _ _ hI.mdpos⟩,
      fun k _ => ?_⟩
    rw [hw, balAt_write A hI.nodup]
    simp only [supplyDelta, hargs, balOf_nil]
    split
    · rename_i hk; rw [← hk]; omega
    · rfl
  | freeze =>
    obtain ⟨hI', hb⟩ := toggleFreeze_step .freeze (by decide) env c A out ctx' hI hrsys h
      ((short_runFn .esdtFreeze env c nofun { accts := A } hI.short).elim h)
    exact ⟨hI', fun k _ => by rw [hb k]; simp [supplyDelta]⟩
  | unfreeze =>
    obtain ⟨hI', hb⟩ := toggleFreeze_step .unfreeze (by decide) env c A out ctx' hI hrsys h
      ((short_runFn .esdtUnFreeze env c nofun { accts := A } hI.short).elim h)
    exact ⟨hI', fun k _ => by rw [hb k]; simp [supplyDelta]⟩
  | create =>
    have hS' : Short ctx'.accts := (short_runFn .nftCreate env c nofun { accts := A } hI.short).elim h
    have hC' := (canon_nftCreate env c { accts := A } ctx' out hI.canon h).toCanon hS'
    obtain ⟨tok, qb, name, roy, hash, attrs, n, A1, h0, h1, _, _, _, _, hn, _, _, hret, hA1, hw⟩ :=
      (nftCreate_effect env c { accts := A }).elim h
    simp only at hn hA1 hw
    obtain ⟨rest, hargs⟩ := args_cons2 h0 h1
    have hnw := hwrap rfl tok h0
    have hn' : n = counterOf (A.read c.caller (nonceKeyPrefix ++ tok)) + 1 := by rw [hn, u64_of_lt _ hnw]
    have hn0 : n ≠ 0 := by omega
    have hnum : NumOK (createdToken c qb name roy hash attrs n) :=
      ⟨by show (1 : Nat) < two32; decide, fun m hm => by
        simp only [createdToken, Option.some.injEq] at hm
        subst hm
        exact ⟨by rw [hn]; exact u64_lt _, Nat.mod_lt _ (by decide)⟩⟩
    have hn1 : A1.Nodup := by rw [hA1]; exact Accts.write_nodup _ hI.nodup _ _ _
    have hkne : ¬ (c.caller = c.caller ∧ nonceKeyPrefix ++ tok = nftKey (esdtKeyPrefix ++ tok) n) := by
      rintro ⟨_, he⟩
      exact not_tokKey_nonce tok (he ▸ tokKey_nft tok n)
    have hl := hS' c.caller (nftKey (esdtKeyPrefix ++ tok) n)
    rw [hw, Accts.read_write, if_neg hkne, hA1, Accts.read_write, if_pos ⟨rfl, rfl⟩] at hl
    have hmdpos1 : MdPos A1 := by
      rw [hA1]
      apply mdpos_write_nft _ _ _ hI.mdpos hnum hl
      intro md hmd
      simp only [createdToken, Option.some.injEq] at hmd
      subst hmd
      exact hn0
    refine ⟨⟨by rw [hw]; exact Accts.write_nodup _ hn1 _ _ _, hC', hS',
      by rw [hw]; exact mdpos_write_nontok _ _ _ hmdpos1 (not_tokKey_nonce tok)⟩, fun k hk => ?_⟩
    rw [hw, balAt_write A1 hn1, if_neg (tokKey_not_nonce tok k hk), hA1, balAt_write A hI.nodup]
    simp only [supplyDelta, hargs, hret, beNat_beBytes]
    split
    · rename_i hkk
      rw [balOf_nftStoredForm_len _ (beNat qb : Int) rfl (by omega) hnum hl, ← hkk]
      omega
    · omega

end Esdt

namespace Esdt

/-! ### operation sequences on one shard -/

structure SStep where
  op : SupplyOp
  env : Env
  c : Call

/-- run the operations from `A` (a failed one changes nothing); returns the final state and, per key, the sum of the
    stated amounts of the successful ones -/
def srun : List SStep → Accts → Accts × (Bytes → Int)
  | [], A => (A, fun _ => 0)
  | s :: rest, A =>
    match s.op.run s.env s.c { accts := A } with
    | .ok (out, ctx') =>
      let r := srun rest ctx'.accts
      (r.1, fun k => supplyDelta s.op s.c A out k + r.2 k)
    | _ => srun rest A

/-- what is assumed of every operation, on the state it runs on: neither account is the system account (the global-settings
    store), and an NFT create does not find its counter at 2^64 − 1 -/
def SStepOK (A : Accts) (s : SStep) : Prop :=
  s.c.caller ≠ systemAccountAddress ∧ s.c.rcv ≠ systemAccountAddress ∧
  (s.op = .create → ∀ tok, s.c.args[0]? = some tok → counterOf (A.read s.c.caller (nonceKeyPrefix ++ tok)) + 1 < two64)

def SStepsOK : List SStep → Accts → Prop
  | [], _ => True
  | s :: rest, A =>
    SStepOK A s ∧
    match s.op.run s.env s.c { accts := A } with
    | .ok (_, ctx') => SStepsOK rest ctx'.accts
    | _ => SStepsOK rest A

theorem supply_history_run : ∀ (steps : List SStep) (A : Accts), SInv A → SStepsOK steps A →
    SInv (srun steps A).1 ∧ ∀ k, TokKey k → balAt (srun steps A).1 k = balAt A k + (srun steps A).2 k
  | [], _, hI, _ => ⟨hI, fun k _ => (Int.add_zero _).symm⟩
  | s :: rest, A, hI, ⟨⟨hc, hr, hw⟩, hrest⟩ => by
    rcases he : s.op.run s.env s.c { accts := A } with ⟨out, ctx'⟩ | _ | _ <;> simp only [srun, he] at hrest ⊢
    · obtain ⟨hI1, hb1⟩ := supply_step s.op s.env s.c A out ctx' hI hc hr hw he
      obtain ⟨hI2, hb2⟩ := supply_history_run rest ctx'.accts hI1 hrest
      exact ⟨hI2, fun k hk => by rw [hb2 k hk, hb1 k hk]; omega⟩
    · exact supply_history_run rest A hI hrest
    · exact supply_history_run rest A hI hrest

/-- a property of the shard state that every successful admissible operation keeps on a well-formed state holds along
    every admissible history (failed operations are rolled back), and the state stays well-formed -/
theorem srun_inv {Inv : Accts → Prop} {ok : SStep → Prop}
    (hstep : ∀ (s : SStep) A out ctx', SInv A → Inv A → ok s → s.op.run s.env s.c { accts := A } = .ok (out, ctx') →
      Inv ctx'.accts) :
    ∀ (steps : List SStep) (A : Accts), SInv A → Inv A → SStepsOK steps A → (∀ s ∈ steps, ok s) →
    SInv (srun steps A).1 ∧ Inv (srun steps A).1
  | [], _, hI, h, _, _ => ⟨hI, h⟩
  | s :: rest, A, hI, h, ⟨⟨hc, hr, hw⟩, hrest⟩, hs => by
    have hs' := fun s' hs' => hs s' (List.mem_cons_of_mem _ hs')
    rcases he : s.op.run s.env s.c { accts := A } with ⟨out, ctx'⟩ | _ | _ <;> simp only [srun, he] at hrest ⊢
    · exact srun_inv hstep rest _ (supply_step s.op s.env s.c A out ctx' hI hc hr hw he).1
        (hstep s A out ctx' hI h (hs s List.mem_cons_self) he) hrest hs'
    · exact srun_inv hstep rest A hI h hrest hs'
    · exact srun_inv hstep rest A hI h hrest hs'

end Esdt
