/-
  Proofs/UnifiedPausedMulti.lean — C04, pause half: the mixed-world history theorem extended by the MultiESDTNFTTransfer
  steps (both halves, any number of items, repeated and mixed items) — with it the pause half covers histories of all
  23 functions.
-/
import Proofs.UnifiedPausedNFT
namespace Esdt

variable {tok : Bytes} {f : Bytes → Nat → Bytes}

/-- every argument of the call that could serve as a token identifier is `tok` itself or does not alias it -/
def NoAliasArgs (tok : Bytes) (c : Call) : Prop := ∀ t0 ∈ c.args, NoAliasTok tok t0

/-- what is assumed of a step for the paused token, every kind of step included -/
def UPzStepOK3 (tok : Bytes) (w : UWorld) : UStep → Prop
  | .multi (.user c) => c.rae = false ∧ NoAliasArgs tok c
  | .multi (.deliver j) => ∀ m, w.multi[j]? = some m → ∀ t0 ∈ m.args, NoAliasTok tok t0
  | .multi (.refund j) => ∀ m, w.multi[j]? = some m → m.rcv ≠ m.caller ∧ ∀ t0 ∈ m.args, t0 ≠ tok ∧ NoAliasTok tok t0
  | st => UPzStepOK2 tok w st

theorem ustep_pz3 (e : Env) (w : UWorld) (st : UStep) (i : Nat) (hok : UStepOK e w st)
    (hpz : UPzStepOK3 tok w st) (hF : PzW tok f i w) : PzW tok f i (ustep e w st) := by
  cases st with
  | ft s => exact ustep_pz2 e w (.ft s) i hok hpz hF
  | nft s => exact ustep_pz2 e w (.nft s) i hok hpz hF
  | call s fn c => exact ustep_pz2 e w (.call s fn c) i hok hpz hF
  | multi st =>
    refine ustep_pz_of e w _ i (fun s fn c hc A hA => ?_) hF
    cases st with
    | user c' => cases hc; exact .of_transfer rfl fun t ht => ⟨hpz.2 t ht, Or.inl hpz.1⟩
    | deliver j =>
      obtain ⟨m, hm, hc⟩ := Option.map_eq_some_iff.mp hc; cases hc
      exact .of_transfer rfl fun t ht => ⟨hpz m hm t ht, Or.inl rfl⟩
    | refund j =>
      obtain ⟨m, hm, hc⟩ := Option.map_eq_some_iff.mp hc; cases hc
      exact .of_transfer rfl fun t ht => ⟨((hpz m hm).2 t ht).2, Or.inr ((hpz m hm).2 t ht).1⟩

def UPzStepsOK3 (e : Env) (tok : Bytes) : List UStep → UWorld → Prop
  | [], _ => True
  | st :: rest, w => UPzStepOK3 tok w st ∧ UPzStepsOK3 e tok rest (ustep e w st)

/-- FULL over histories of ALL 23 functions: the three kinds of transfer traffic mixed with the 20 other functions -/
theorem unified_pz_history3 (e : Env) (i : Nat) :
    ∀ (steps : List UStep) (w : UWorld), UInv e w → UStepsOK e steps w → UPzStepsOK3 e tok steps w →
      PzW tok f i w → PzW tok f i (urun e steps w).1 :=
  urun_pres e fun st _ w _ hok hR hF => ⟨ustep_pz3 e w st i hok hR.1 hF, hR.2⟩

end Esdt
