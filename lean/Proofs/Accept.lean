/-
  Proofs/Accept.lean — success guaranteed: the rules of total-correctness triples (`Tot P m Q`: from every context
  satisfying `P` the computation SUCCEEDS and its result satisfies `Q`), and the acceptance theorems of C10 / C01, which
  are stated directly as "there is a successful result" and proved by evaluating the body under their hypotheses.  Here:
  the create-role hand-over — the message the current holder's shard emits is accepted on the next holder's shard,
  whatever that account held — and the two fungible helpers.
-/
import Proofs.NetworkNonce
namespace Esdt

/-- total correctness: success guaranteed, postcondition on the result -/
def Tot {α} (P : Ctx → Prop) (m : M α) (Q : α → Ctx → Prop) : Prop :=
  ∀ c, P c → ∃ a c', m c = .ok (a, c') ∧ Q a c'

theorem Tot.pure {α} {P : Ctx → Prop} {a : α} {Q : α → Ctx → Prop} (h : ∀ c, P c → Q a c) : Tot P (pure a : M α) Q :=
  fun c hc => ⟨a, c, rfl, h c hc⟩

theorem Tot.bind {α β} {P : Ctx → Prop} {m : M α} {f : α → M β} {Q : α → Ctx → Prop} {R : β → Ctx → Prop}
    (hm : Tot P m Q) (hf : ∀ a, Tot (Q a) (f a) R) : Tot P (m >>= f) R := by
  intro c hc
  obtain ⟨a, c1, h1, hq⟩ := hm c hc
  obtain ⟨b, c2, h2, hr⟩ := hf a c1 hq
  exact ⟨b, c2, by show M.bind m f c = _; simp [M.bind, h1, h2], hr⟩

theorem Tot.weaken {α} {P P' : Ctx → Prop} {m : M α} {Q Q' : α → Ctx → Prop} (h : Tot P m Q) (hp : ∀ c, P' c → P c)
    (hq : ∀ a c, Q a c → Q' a c) : Tot P' m Q' := by
  intro c hc
  obtain ⟨a, c', h1, h2⟩ := h c (hp c hc)
  exact ⟨a, c', h1, hq a c' h2⟩

/-- "no fault is planned" — the only way a dependency call fails in the model -/
def NoFault (c : Ctx) : Prop := c.failAt = none

theorem Tot.tick (d : Dep) (I : Accts → Prop) :
    Tot (fun c => NoFault c ∧ I c.accts) (tick d) (fun _ c' => NoFault c' ∧ I c'.accts) := by
  intro c ⟨hn, hi⟩
  refine ⟨(), { c with deps := d :: c.deps }, ?_, hn, hi⟩
  unfold Esdt.tick NoFault at *
  simp [hn]

theorem Tot.guardE (cond : Bool) (e : ErrKind) (h : cond = false) (P : Ctx → Prop) :
    Tot P (guardE cond e) (fun _ c' => P c') := by
  intro c hc
  exact ⟨(), c, by simp [Esdt.guardE, h, Pure.pure, M.pure], hc⟩

theorem Tot.argAt (args : List Bytes) (i : Nat) (x : Bytes) (h : args[i]? = some x) (P : Ctx → Prop) :
    Tot P (argAt args i) (fun a c' => a = x ∧ P c') := by
  intro c hc
  exact ⟨x, c, by simp [Esdt.argAt, deref, h, Pure.pure, M.pure], rfl, hc⟩

theorem Tot.readKey (a k : Bytes) (P : Ctx → Prop) :
    Tot P (readKey a k) (fun v c' => v = c'.accts.read a k ∧ P c') := by
  intro c hc
  exact ⟨_, c, rfl, rfl, hc⟩

theorem Tot.writeKey (a k v : Bytes) (A : Accts) :
    Tot (fun c => NoFault c ∧ c.accts = A) (writeKey a k v) (fun _ c' => NoFault c' ∧ c'.accts = A.write a k v) := by
  intro c ⟨hn, ha⟩
  unfold NoFault at hn
  refine ⟨(), { c with deps := .w :: c.deps, accts := c.accts.write a k v }, ?_, hn, by rw [← ha]⟩
  simp [Esdt.writeKey, Esdt.tick, hn, Bind.bind, M.bind, Accts.write]

end Esdt

namespace Esdt

/-- the next-holder step of the create-role hand-over SUCCEEDS on every state of the destination shard: no gate, no
    payability, no balance is consulted; the only things that can stop it are a role list that does not decode (or would
    not fit a Go slice once extended) and an injected dependency fault -/
theorem handover_delivery_accepted (env : Env) (c : Call) (ctx : Ctx) (tok nb : Bytes)
    (hnf : ctx.failAt = none) (hval : c.callValue = 0) (hargs : c.args = [tok, nb])
    (hsys : c.caller ≠ esdtSCAddress)
    (hsnd : present env.nshards env.self c.caller = false) (hdst : present env.nshards env.self c.rcv = true)
    (roles : List Bytes)
    (hroles : rolesOf (ctx.accts.read c.rcv (roleKeyPrefix ++ tok)) = some roles)
    (hlen : (encRoles (roles ++ [roleNFTCreate])).length < two63) :
    ∃ out ctx', esdtNFTCreateRoleTransfer env c ctx = .ok (out, ctx') ∧ out.rc = 0 := by
  unfold esdtNFTCreateRoleTransfer checkBasic
  simp only [hsnd, hdst, hsys, if_false, hval, hargs, Esdt.guardE, Esdt.argAt, deref, saveLatestNonce, Esdt.writeKey,
    Esdt.tick, addCreateRole, getRoles, Esdt.readKey, Bind.bind, M.bind, Pure.pure, M.pure, hnf,
    List.length_cons, List.length_nil, List.getElem?_cons_zero, List.getElem?_cons_succ, ne_eq, not_true_eq_false,
    decide_false, decide_true, Bool.not_true, Bool.false_eq_true, if_true, reduceCtorEq, Nat.reduceAdd, Nat.reduceLT]
  have hr : ((ctx.accts.set c.rcv
        { store := (ctx.accts.get c.rcv).store.put (nonceKeyPrefix ++ tok) (beBytes (u64 (beNat nb))),
          balance := (ctx.accts.get c.rcv).balance, reward := (ctx.accts.get c.rcv).reward,
          owner := (ctx.accts.get c.rcv).owner, name := (ctx.accts.get c.rcv).name }).get c.rcv).store.get
        (roleKeyPrefix ++ tok) = ctx.accts.read c.rcv (roleKeyPrefix ++ tok) := by
    have := Accts.read_write ctx.accts c.rcv (nonceKeyPrefix ++ tok) (beBytes (u64 (beNat nb))) c.rcv (roleKeyPrefix ++ tok)
    rw [if_neg (fun h => role_ne_nonce _ _ h.2.symm)] at this
    exact this
  rw [hr]
  unfold rolesOf at hroles
  by_cases hraw : ctx.accts.read c.rcv (roleKeyPrefix ++ tok) = []
  · rw [if_pos hraw] at hroles
    cases hroles
    simp only [hraw, if_true, M.pure, List.nil_append] at hlen ⊢
    have hc : ([] : List Bytes).contains roleNFTCreate = false := rfl
    simp only [hc, Bool.false_eq_true, if_false, saveRoles, marshalRoles, Esdt.tick, Esdt.writeKey, Bind.bind, M.bind,
      Pure.pure, M.pure, hnf, hlen, if_true, List.length_cons, reduceCtorEq]
    exact ⟨_, _, rfl, rfl⟩
  · rw [if_neg hraw] at hroles
    simp only [hraw, if_false, unmarshalRoles, Esdt.tick, Bind.bind, M.bind, Pure.pure, M.pure, hnf, hroles,
      List.length_cons, reduceCtorEq]
    by_cases hc : roles.contains roleNFTCreate = true
    · simp only [hc, if_true, M.pure]
      exact ⟨_, _, rfl, rfl⟩
    · simp only [hc, if_false, saveRoles, marshalRoles, Esdt.tick, Esdt.writeKey, Bind.bind, M.bind, Pure.pure, M.pure,
        hnf, hlen, if_true, List.length_cons, reduceCtorEq, Bool.false_eq_true]
      exact ⟨_, _, rfl, rfl⟩

end Esdt

namespace Esdt

/-! ### the fungible helpers -/

/-- `saveESDTData` succeeds when the entry carries a value and its encoding fits -/
theorem saveESDTData_accepts (a k : Bytes) (t : Token) (v : Int) (ctx : Ctx) (hnf : ctx.failAt = none)
    (hv : t.value = some v) (hlen : (encToken t).length < two63) :
    ∃ ctx', saveESDTData a t k ctx = .ok ((), ctx') ∧ ctx'.failAt = none ∧
      ctx'.accts = ctx.accts.write a k (storedForm t) := by
  unfold saveESDTData storedForm
  by_cases hz : v = 0 ∧ allZero t.properties = true
  · have hz' : t.value = some 0 ∧ allZero t.properties = true := ⟨by rw [hv, hz.1], hz.2⟩
    rw [if_pos hz']
    simp only [deref, hv, Bind.bind, M.bind, Pure.pure, M.pure, hz, and_self, if_true, Esdt.writeKey, Esdt.tick, hnf,
      List.length_cons, reduceCtorEq, if_false]
    exact ⟨_, rfl, rfl, rfl⟩
  · have hz' : ¬ (t.value = some 0 ∧ allZero t.properties = true) := by
      rintro ⟨h1, h2⟩; rw [hv] at h1; cases h1; exact hz ⟨rfl, h2⟩
    rw [if_neg hz']
    simp only [deref, hv, Bind.bind, M.bind, Pure.pure, M.pure, hz, if_false, marshalToken, Esdt.writeKey, Esdt.tick, hnf,
      hlen, if_true, List.length_cons, reduceCtorEq]
    exact ⟨_, rfl, rfl, rfl⟩


/-- reading an entry through `getESDTDataFromKey` succeeds whenever the slot is empty or decodes -/
theorem getESDTDataFromKey_accepts (a k : Bytes) (t : Token) (ctx : Ctx) (hnf : ctx.failAt = none)
    (ht : tokenOf (ctx.accts.read a k) = some t) :
    ∃ ctx', getESDTDataFromKey a k ctx = .ok (t, ctx') ∧ ctx'.failAt = none ∧ ctx'.accts = ctx.accts := by
  unfold getESDTDataFromKey
  unfold tokenOf at ht
  have hread : (ctx.accts.get a).store.get k = ctx.accts.read a k := rfl
  by_cases hraw : ctx.accts.read a k = []
  · rw [if_pos hraw] at ht
    cases ht
    simp only [Esdt.readKey, Bind.bind, M.bind, hread, hraw, if_true, Pure.pure, M.pure]
    exact ⟨_, rfl, hnf, rfl⟩
  · rw [if_neg hraw] at ht
    simp only [Esdt.readKey, Bind.bind, M.bind, hread, hraw, if_false, unmarshalToken, Esdt.tick, hnf, ht, Pure.pure,
      M.pure, List.length_cons, reduceCtorEq]
    exact ⟨_, rfl, rfl, rfl⟩

end Esdt
