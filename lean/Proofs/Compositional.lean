/-
  Proofs/Compositional.lean — every function body is built from seven primitives (`pure`, `fail`, `goPanic`, `bind`, `tick`,
  `readKey`, `getAcct`) and the writers (`writeKey` and the four account-field setters).  A property `P` of computations
  that the seven have and `bind` keeps (`Compositional P`) therefore holds of every read-only helper outright, and of every
  helper and function that writes as soon as it holds of the writer calls made — with the arguments they are made with,
  read off `c.args`.  One lemma per helper and per function says so, for ANY such `P`: it is the one place where a body is
  walked for a structural property.  Instances: `RO` (read-only), `Pres I` (an invariant of the account table survives:
  Proofs/Pres.lean), `FaultSim` (fault injection: Proofs/Fault.lean).
-/
import Proofs.Monad
namespace Esdt

structure Compositional (P : {α : Type} → M α → Prop) : Prop where
  pure : ∀ {α} (a : α), P (pure a : M α)
  fail : ∀ {α} (e : ErrKind), P (fail e : M α)
  goPanic : ∀ {α}, P (goPanic : M α)
  bind : ∀ {α β} {m : M α} {f : α → M β}, P m → (∀ a, P (f a)) → P (m >>= f)
  tick : ∀ d, P (tick d)
  readKey : ∀ a k, P (readKey a k)
  getAcct : ∀ a, P (getAcct a)

theorem bind_assoc {α β γ} (m : M α) (g : α → M β) (f : β → M γ) :
    (m >>= g) >>= f = m >>= fun a => g a >>= f := by
  funext c
  simp only [bind_apply]
  cases m c <;> rfl

section
variable {P : {α : Type} → M α → Prop} (hP : Compositional P)
include hP

theorem comp_guardE (b : Bool) (e : ErrKind) : P (guardE b e) := by
  cases b
  · exact hP.pure ()
  · exact hP.fail e

theorem comp_deref {α} (o : Option α) : P (deref o) := by
  cases o
  · exact hP.goPanic
  · exact hP.pure _

theorem comp_ite {α} {p : Prop} [Decidable p] {A B : M α} (h1 : p → P A) (h2 : ¬ p → P B) :
    P (if p then A else B) := by
  split
  · exact h1 ‹_›
  · exact h2 ‹_›

/-! Binds that hand a fact about the intermediate result to the rest of the body.  They hold of every compositional `P`
    because the first part is a primitive followed by a pure choice, and `pure a >>= f` IS `f a`, `fail e >>= f` IS `fail e`. -/

theorem comp_guard_bind {β} {b : Bool} {e : ErrKind} {f : Unit → M β} (hf : b = false → P (f ())) :
    P (guardE b e >>= f) := by
  cases b
  · exact hf rfl
  · exact hP.fail e

theorem comp_deref_bind {α β} {o : Option α} {f : α → M β} (hf : ∀ a, o = some a → P (f a)) : P (deref o >>= f) := by
  cases o
  · exact hP.goPanic
  · exact hf _ rfl

theorem comp_argAt_bind {β} {args : List Bytes} {i : Nat} {f : Bytes → M β}
    (hf : ∀ t, args[i]? = some t → P (f t)) : P (argAt args i >>= f) :=
  comp_deref_bind hP hf

theorem comp_unmarshalToken_bind {β} {b : Bytes} {f : Token → M β} (hf : ∀ t, decToken b = some t → P (f t)) :
    P (unmarshalToken b >>= f) := by
  unfold unmarshalToken
  rw [bind_assoc]
  refine hP.bind (hP.tick _) (fun _ => ?_)
  split
  · exact hf _ ‹_›
  · exact hP.fail _

/-- whatever a marshaller returns is shorter than 2^63 bytes (a Go slice) -/
theorem comp_marshalToken_bind {β} {t : Token} {f : Bytes → M β} (hf : ∀ b, b.length < two63 → P (f b)) :
    P (marshalToken t >>= f) := by
  unfold marshalToken
  rw [bind_assoc]
  refine hP.bind (hP.tick _) (fun _ => ?_)
  split
  · exact hf _ ‹_›
  · exact hP.fail _

theorem comp_marshalRoles_bind {β} {r : List Bytes} {f : Bytes → M β} (hf : ∀ b, b.length < two63 → P (f b)) :
    P (marshalRoles r >>= f) := by
  unfold marshalRoles
  rw [bind_assoc]
  refine hP.bind (hP.tick _) (fun _ => ?_)
  split
  · exact hf _ ‹_›
  · exact hP.fail _

/-- a stored counter is read as a 64-bit number -/
theorem comp_getLatestNonce_bind {β} {a tok : Bytes} {f : Nat → M β} (hf : ∀ n, n < two64 → P (f n)) :
    P (getLatestNonce a tok >>= f) := by
  unfold getLatestNonce
  rw [bind_assoc]
  refine hP.bind (hP.readKey _ _) (fun raw => hf _ ?_)
  split
  · decide
  · exact Nat.mod_lt _ (by decide)

end

/-- a read-only leaf of a body: the lemmas about the read-only helpers register themselves here -/
syntax "comp_leaf " term : tactic
macro_rules | `(tactic| comp_leaf $h) => `(tactic| first
  | exact Compositional.tick $h _ | exact Compositional.readKey $h _ _ | exact Compositional.getAcct $h _
  | exact comp_guardE $h _ _ | exact comp_deref $h _ | exact Compositional.goPanic $h)

/-- Walks a body down to its writer calls, which are left as goals.  Interior nodes come first: they are recognised by
    their head symbol, whereas a leaf rule tried on a `bind` of a whole remaining body is dear.  An `argAt` bind puts
    `args[i]? = some _` into the context, a guard that it passed, `unmarshalToken` what the bytes decode to, an `if` its
    condition: the hypotheses about the writers pick these up. -/
macro "comp_step " h:term : tactic => `(tactic| with_reducible first
  | (apply comp_argAt_bind $h; intro _ _)
  | (apply comp_guard_bind $h; intro _)
  | (apply comp_unmarshalToken_bind $h; intro _ _)
  | refine Compositional.bind $h ?_ (fun _ => ?_)
  | exact Compositional.pure $h _
  | exact Compositional.fail $h _
  | comp_leaf $h
  | (apply comp_ite $h <;> intro _)
  | split)
macro "comp " h:term : tactic => `(tactic| repeat' comp_step $h)

/-! ### the read-only helpers -/

section
variable {P : {α : Type} → M α → Prop} (hP : Compositional P)
include hP

theorem comp_loadAcct : P loadAcct := hP.tick _
theorem comp_saveAcct : P saveAcct := hP.tick _
theorem comp_marshalToken (t : Token) : P (marshalToken t) := by unfold marshalToken; comp hP
theorem comp_marshalRoles (r : List Bytes) : P (marshalRoles r) := by unfold marshalRoles; comp hP
theorem comp_unmarshalToken (b : Bytes) : P (unmarshalToken b) := by unfold unmarshalToken; comp hP
theorem comp_unmarshalRoles (b : Bytes) : P (unmarshalRoles b) := by unfold unmarshalRoles; comp hP
theorem comp_checkBasic (c : Call) : P (checkBasic c) := by unfold checkBasic; comp hP
theorem comp_verifyPayable (env : Env) (a : Bytes) : P (verifyPayable env a) := by unfold verifyPayable; comp hP
end
macro_rules | `(tactic| comp_leaf $h) => `(tactic| first
  | exact comp_loadAcct $h | exact comp_saveAcct $h | exact comp_marshalToken $h _ | exact comp_marshalRoles $h _
  | exact comp_unmarshalToken $h _ | exact comp_unmarshalRoles $h _ | exact comp_checkBasic $h _
  | exact comp_verifyPayable $h _ _)

section
variable {P : {α : Type} → M α → Prop} (hP : Compositional P)
include hP

theorem comp_verifyPayableIf (env : Env) (b : Bool) (a : Bytes) : P (verifyPayableIf env b a) := by
  unfold verifyPayableIf; comp hP
theorem comp_checkSameHash (cur t : Token) : P (checkSameHash cur t) := by unfold checkSameHash; comp hP
theorem comp_isPaused (k : Bytes) : P (isPaused k) := by unfold isPaused; comp hP
end
macro_rules | `(tactic| comp_leaf $h) => `(tactic| first
  | exact comp_verifyPayableIf $h _ _ _ | exact comp_checkSameHash $h _ _ | exact comp_isPaused $h _)

section
variable {P : {α : Type} → M α → Prop} (hP : Compositional P)
include hP

theorem comp_checkFrozeAndPause (a k : Bytes) (t : Token) (r : Bool) : P (checkFrozeAndPause a k t r) := by
  unfold checkFrozeAndPause; comp hP
theorem comp_getESDTDataFromKey (a k : Bytes) : P (getESDTDataFromKey a k) := by unfold getESDTDataFromKey; comp hP
theorem comp_getNFTOnDestination (a k : Bytes) (n : Nat) : P (getNFTOnDestination a k n) := by
  unfold getNFTOnDestination; comp hP
theorem comp_getRoles (a k : Bytes) : P (getRoles a k) := by unfold getRoles; comp hP
theorem comp_getLatestNonce (a t : Bytes) : P (getLatestNonce a t) := by unfold getLatestNonce; comp hP
theorem comp_checkCreateBurnAdd (p : Bool) (c : Call) (cost : Nat) : P (checkCreateBurnAdd p c cost) := by
  unfold checkCreateBurnAdd; comp hP
theorem comp_checkLocalAction (p : Bool) (c : Call) (cost : Nat) : P (checkLocalAction p c cost) := by
  unfold checkLocalAction; comp hP
end
macro_rules | `(tactic| comp_leaf $h) => `(tactic| first
  | exact comp_checkFrozeAndPause $h _ _ _ _ | exact comp_getESDTDataFromKey $h _ _
  | exact comp_getNFTOnDestination $h _ _ _ | exact comp_getRoles $h _ _ | exact comp_getLatestNonce $h _ _
  | exact comp_checkCreateBurnAdd $h _ _ _ | exact comp_checkLocalAction $h _ _ _)

section
variable {P : {α : Type} → M α → Prop} (hP : Compositional P)
include hP

theorem comp_getNFTOnSender (a k : Bytes) (n : Nat) : P (getNFTOnSender a k n) := by unfold getNFTOnSender; comp hP
theorem comp_checkAllowed (a t r : Bytes) : P (checkAllowed a t r) := by unfold checkAllowed; comp hP

theorem comp_multiPayloadLoop (env : Env) : ∀ toks g, P (multiPayloadLoop env toks g)
  | [], g => by unfold multiPayloadLoop; exact hP.pure _
  | (tokenID, t) :: rest, g => by
    unfold multiPayloadLoop
    comp hP <;> exact comp_multiPayloadLoop env rest _
end
macro_rules | `(tactic| comp_leaf $h) => `(tactic| first
  | exact comp_getNFTOnSender $h _ _ _ | exact comp_checkAllowed $h _ _ _ | exact comp_multiPayloadLoop $h _ _ _)

section
variable {P : {α : Type} → M α → Prop} (hP : Compositional P)
include hP
theorem comp_checkAllowedIf (b : Bool) (a t r : Bytes) : P (checkAllowedIf b a t r) := by unfold checkAllowedIf; comp hP
end
macro_rules | `(tactic| comp_leaf $h) => `(tactic| exact comp_checkAllowedIf $h _ _ _ _)

/-! ### the writer helpers -/

section helpers
variable {P : {α : Type} → M α → Prop} (hP : Compositional P) {a k : Bytes}
include hP

theorem comp_saveESDTData (t : Token) (h : ∀ v, v.length < two63 → P (writeKey a k v)) :
    P (saveESDTData a t k) := by
  unfold saveESDTData
  refine hP.bind (comp_deref hP _) (fun _ => ?_)
  split
  · exact h [] (by decide)
  · exact comp_marshalToken_bind hP h

theorem comp_addToESDTBalance (d : Int) (rae : Bool) (h : ∀ v, v.length < two63 → P (writeKey a k v)) :
    P (addToESDTBalance a k d rae) := by
  unfold addToESDTBalance
  comp hP <;> exact comp_saveESDTData hP _ h

theorem comp_saveNFT {tk : Bytes} (t : Token) (rae : Bool)
    (h : ∀ n v, v.length < two63 → P (writeKey a (nftKey tk n) v)) : P (saveNFT a tk t rae) := by
  unfold saveNFT
  refine hP.bind (comp_checkFrozeAndPause hP _ _ _ _) (fun _ => ?_)
  refine hP.bind (comp_checkFrozeAndPause hP _ _ _ _) (fun _ => ?_)
  refine hP.bind (comp_deref hP _) (fun _ => ?_)
  split
  · exact hP.bind (h _ [] (by decide)) (fun _ => hP.pure _)
  · exact comp_marshalToken_bind hP (fun b hb => hP.bind (h _ b hb) (fun _ => hP.pure _))

theorem comp_addNFTToDestination {tk : Bytes} (env : Env) (t : Token) (mv rae : Bool)
    (h : ∀ n v, v.length < two63 → P (writeKey a (nftKey tk n) v)) :
    P (addNFTToDestination env a t tk mv rae) := by
  unfold addNFTToDestination
  comp hP <;> exact comp_saveNFT hP _ _ h

theorem comp_saveRoles (r : List Bytes) (h : ∀ v, v.length < two63 → P (writeKey a k v)) :
    P (saveRoles a k r) := by
  unfold saveRoles
  exact comp_marshalRoles_bind hP h

theorem comp_addCreateRole (h : ∀ v, v.length < two63 → P (writeKey a k v)) : P (addCreateRole a k) := by
  unfold addCreateRole
  comp hP <;> exact comp_saveRoles hP _ h

end helpers

/-! ### the 23 functions -/

section functions
variable {P : {α : Type} → M α → Prop} (hP : Compositional P) (env : Env) (c : Call)
include hP

theorem comp_claimDeveloperRewards (hr : P (setReward c.rcv 0)) (hb : ∀ v, P (setBalance c.caller v)) :
    P (claimDeveloperRewards env c) := by
  unfold claimDeveloperRewards
  comp hP <;> first | exact hr | exact hb _

theorem comp_changeOwnerAddress (h : ∀ v, P (setOwner c.rcv v)) : P (changeOwnerAddress env c) := by
  unfold changeOwnerAddress
  comp hP <;> exact h _

theorem comp_setUserName (h : ∀ v, P (setName c.rcv v)) : P (setUserName env c) := by
  unfold setUserName
  comp hP <;> exact h _

/-- SaveKeyValue writes listed values under listed keys that passed the guard, into the caller's own storage -/
theorem comp_skvLoop : ∀ (l : List Bytes) (g : Nat),
    (∀ k v, k ∈ l → v ∈ l → isAllowedToSaveUnderKey k = true → P (writeKey c.caller k v)) →
    P (skvLoop env c l g)
  | [], g, _ => by unfold skvLoop; exact hP.pure _
  | [_], g, _ => by unfold skvLoop; exact hP.goPanic
  | k :: v :: rest, g, h => by
    unfold skvLoop
    dsimp only
    apply comp_guard_bind hP
    intro hal
    have hw := h k v (by simp) (by simp) (by simpa using hal)
    have ih := fun g => comp_skvLoop rest g (fun k' v' hk hv => h k' v' (by simp [hk]) (by simp [hv]))
    comp hP <;> first | exact hw | exact ih _

theorem comp_saveKeyValue
    (h : ∀ k v, k ∈ c.args → v ∈ c.args → isAllowedToSaveUnderKey k = true → P (writeKey c.caller k v)) :
    P (saveKeyValue env c) := by
  unfold saveKeyValue
  comp hP <;> exact comp_skvLoop hP env c _ _ h

theorem comp_esdtPause (p : Bool)
    (h : ∀ tok, c.args[0]? = some tok → P (writeKey systemAccountAddress (esdtKeyPrefix ++ tok) (flagBytes p))) :
    P (esdtPause p env c) := by
  unfold esdtPause
  comp hP <;> exact h _ ‹_›

/-- ESDTTransfer: a debit of the caller's entry and / or a credit of the receiver's -/
theorem comp_esdtTransfer
    (h : ∀ tok, c.args[0]? = some tok → ∀ a d, a = c.caller ∨ a = c.rcv →
      P (addToESDTBalance a (esdtKeyPrefix ++ tok) d c.rae)) : P (esdtTransfer env c) := by
  unfold esdtTransfer
  comp hP <;> first | exact h _ ‹_› _ _ (Or.inl rfl) | exact h _ ‹_› _ _ (Or.inr rfl)

theorem comp_esdtBurn 
    (h : ∀ tok, c.args[0]? = some tok → ∀ d, P (addToESDTBalance c.caller (esdtKeyPrefix ++ tok) d c.rae)) : P (esdtBurn env c) := by
  unfold esdtBurn
  comp hP <;> exact h _ ‹_› _

theorem comp_esdtLocalMint 
    (h : ∀ tok, c.args[0]? = some tok → ∀ d, P (addToESDTBalance c.caller (esdtKeyPrefix ++ tok) d c.rae)) : P (esdtLocalMint env c) := by
  unfold esdtLocalMint
  comp hP <;> exact h _ ‹_› _

theorem comp_esdtLocalBurn 
    (h : ∀ tok, c.args[0]? = some tok → ∀ d, P (addToESDTBalance c.caller (esdtKeyPrefix ++ tok) d c.rae)) : P (esdtLocalBurn env c) := by
  unfold esdtLocalBurn
  comp hP <;> exact h _ ‹_› _

theorem comp_esdtFreezeWipe (kind : FreezeKind)
    (hw : ∀ tok, c.args[0]? = some tok → P (writeKey c.rcv (esdtKeyPrefix ++ tok) []))
    (hs : ∀ tok, c.args[0]? = some tok → ∀ t, P (saveESDTData c.rcv t (esdtKeyPrefix ++ tok))) :
    P (esdtFreezeWipe kind env c) := by
  unfold esdtFreezeWipe
  comp hP <;> first | exact hw _ ‹_› | exact hs _ ‹_› _

theorem comp_esdtRoles (set : Bool)
    (h : ∀ tok, c.args[0]? = some tok → ∀ r, P (saveRoles c.rcv (roleKeyPrefix ++ tok) r)) :
    P (esdtRoles set env c) := by
  unfold esdtRoles
  comp hP <;> exact h _ ‹_› _

theorem comp_esdtNFTCreate 
    (hs : ∀ tok, c.args[0]? = some tok → ∀ t, P (saveNFT c.caller (esdtKeyPrefix ++ tok) t c.rae))
    (hn : ∀ tok, c.args[0]? = some tok → ∀ n, n < two64 → P (saveLatestNonce c.caller tok n)) :
    P (esdtNFTCreate env c) := by
  unfold esdtNFTCreate
  comp hP <;> first | exact hs _ ‹_› _ | exact hn _ ‹_› _ (Nat.mod_lt _ (by decide))

theorem comp_esdtNFTAddQuantity 
    (hs : ∀ tok, c.args[0]? = some tok → ∀ t, P (saveNFT c.caller (esdtKeyPrefix ++ tok) t c.rae)) : P (esdtNFTAddQuantity env c) := by
  unfold esdtNFTAddQuantity
  comp hP <;> exact hs _ ‹_› _

theorem comp_esdtNFTBurn 
    (hs : ∀ tok, c.args[0]? = some tok → ∀ t, P (saveNFT c.caller (esdtKeyPrefix ++ tok) t c.rae)) : P (esdtNFTBurn env c) := by
  unfold esdtNFTBurn
  comp hP <;> exact hs _ ‹_› _

theorem comp_esdtNFTAddURI 
    (hs : ∀ tok, c.args[0]? = some tok → ∀ t, P (saveNFT c.caller (esdtKeyPrefix ++ tok) t c.rae)) : P (esdtNFTAddURI env c) := by
  unfold esdtNFTAddURI
  comp hP <;> exact hs _ ‹_› _

theorem comp_esdtNFTUpdateAttributes 
    (hs : ∀ tok, c.args[0]? = some tok → ∀ t, P (saveNFT c.caller (esdtKeyPrefix ++ tok) t c.rae)) : P (esdtNFTUpdateAttributes env c) := by
  unfold esdtNFTUpdateAttributes
  comp hP <;> exact hs _ ‹_› _

/-- the create-role hand-over: counter and role list of the old holder, and of the new one where it is local -/
theorem comp_esdtNFTCreateRoleTransfer
    (hn : ∀ tok a, c.args[0]? = some tok → a = c.rcv ∨ c.args[1]? = some a → ∀ n, n < two64 →
      P (saveLatestNonce a tok n))
    (hr : ∀ tok, c.args[0]? = some tok → ∀ r, P (saveRoles c.rcv (roleKeyPrefix ++ tok) r))
    (hc : ∀ tok a, c.args[0]? = some tok → a = c.rcv ∨ c.args[1]? = some a →
      P (addCreateRole a (roleKeyPrefix ++ tok))) :
    P (esdtNFTCreateRoleTransfer env c) := by
  unfold esdtNFTCreateRoleTransfer
  refine hP.bind (comp_checkBasic hP _) (fun _ => ?_)
  refine hP.bind (comp_guardE hP _ _) (fun _ => ?_)
  refine hP.bind (comp_guardE hP _ _) (fun _ => ?_)
  apply comp_ite hP <;> intro _
  · refine hP.bind (comp_guardE hP _ _) (fun _ => ?_)
    apply comp_argAt_bind hP; intro tok h0
    apply comp_argAt_bind hP; intro dest h1
    refine hP.bind (comp_guardE hP _ _) (fun _ => ?_)
    refine comp_getLatestNonce_bind hP (fun nonce hlt => ?_)
    comp hP <;> first
      | exact hn _ _ h0 (Or.inl rfl) _ (by decide)
      | exact hn _ _ h0 (Or.inr h1) _ hlt
      | exact hr _ h0 _
      | exact hc _ _ h0 (Or.inr h1)
  · comp hP <;> first
      | exact hn _ _ ‹_› (Or.inl rfl) _ (Nat.mod_lt _ (by decide))
      | exact hc _ _ ‹_› (Or.inl rfl)

/-- the sender half of ESDTNFTTransfer (it proceeds only for a non-zero nonce): the caller's entry is rewritten, and on
    the same shard the destination's -/
theorem comp_esdtNFTTransferSender
    (hs : ∀ tok nb, c.args[0]? = some tok → c.args[1]? = some nb → u64 (beNat nb) ≠ 0 → ∀ t,
      P (saveNFT c.caller (esdtKeyPrefix ++ tok) t c.rae))
    (hd : ∀ tok nb dst, c.args[0]? = some tok → c.args[1]? = some nb → u64 (beNat nb) ≠ 0 → c.args[3]? = some dst →
      ∀ t mv, P (addNFTToDestination env dst t (esdtKeyPrefix ++ tok) mv c.rae)) :
    P (esdtNFTTransferSender env c) := by
  unfold esdtNFTTransferSender
  comp hP <;> first
    | exact hs _ _ ‹_› ‹_› (of_decide_eq_false ‹decide (u64 (beNat _) = 0) = false›) _
    | exact hd _ _ _ ‹_› ‹_› (of_decide_eq_false ‹decide (u64 (beNat _) = 0) = false›) ‹_› _ _

/-- ESDTNFTTransfer: the sender half when caller = receiver, else the credit of the receiver -/
theorem comp_esdtNFTTransfer
    (hs : c.caller = c.rcv → ∀ tok nb, c.args[0]? = some tok → c.args[1]? = some nb → u64 (beNat nb) ≠ 0 → ∀ t,
      P (saveNFT c.caller (esdtKeyPrefix ++ tok) t c.rae))
    (hd : c.caller = c.rcv → ∀ tok nb dst, c.args[0]? = some tok → c.args[1]? = some nb → u64 (beNat nb) ≠ 0 →
      c.args[3]? = some dst → ∀ t mv, P (addNFTToDestination env dst t (esdtKeyPrefix ++ tok) mv c.rae))
    (hr : c.caller ≠ c.rcv → ∀ tok pl t, c.args[0]? = some tok → c.args[3]? = some pl → decToken pl = some t → ∀ mv,
      P (addNFTToDestination env c.rcv t (esdtKeyPrefix ++ tok) mv c.rae)) :
    P (esdtNFTTransfer env c) := by
  unfold esdtNFTTransfer
  comp hP <;> first
    | exact comp_esdtNFTTransferSender hP env c (hs ‹_›) (hd ‹_›)
    | exact hr ‹_› _ _ _ ‹_› ‹_› ‹_› _

/-- one item on the sender's shard -/
theorem comp_transferOne (l : Bool) (dst tok : Bytes) (n q : Nat) (v : Bool)
    (hs : ∀ t, P (saveNFT c.caller (esdtKeyPrefix ++ tok) t c.rae))
    (hd : ∀ t, P (addNFTToDestination env dst t (esdtKeyPrefix ++ tok) v c.rae)) :
    P (transferOne env c l dst tok n q v) := by
  unfold transferOne
  comp hP <;> first | exact hs _ | exact hd _

/-- the sender loop: item `i` is read off `c.args` at `idx + 3 i` -/
theorem comp_multiSenderLoop (l : Bool) (dst : Bytes) (v : Bool)
    (h : ∀ i tok nb qb, c.args[i]? = some tok → c.args[i + 1]? = some nb → c.args[i + 2]? = some qb →
      P (transferOne env c l dst tok (u64 (beNat nb)) (beNat qb) v)) :
    ∀ n idx, P (multiSenderLoop env c l dst v n idx)
  | 0, _ => by unfold multiSenderLoop; exact hP.pure _
  | n + 1, idx => by
    unfold multiSenderLoop
    comp hP <;> first | exact h _ _ _ _ ‹_› ‹_› ‹_› | exact comp_multiSenderLoop l dst v h n _

/-- the destination loop: NFT items (the decoded payload) through `addNFTToDestination`, fungible ones through
    `addToESDTBalance` -/
theorem comp_multiDestLoop (m : Nat)
    (hn : ∀ (i : Nat) tok pl t, c.args[i]? = some tok → c.args[i + 2]? = some pl → decToken pl = some t → ∀ mv,
      P (addNFTToDestination env c.rcv t (esdtKeyPrefix ++ tok) mv c.rae))
    (hf : ∀ (i : Nat) tok, c.args[i]? = some tok → ∀ d, P (addToESDTBalance c.rcv (esdtKeyPrefix ++ tok) d c.rae)) :
    ∀ n idx, P (multiDestLoop env c m n idx)
  | 0, _ => by unfold multiDestLoop; exact hP.pure _
  | n + 1, idx => by
    unfold multiDestLoop
    comp hP <;> first | exact hn _ _ _ _ ‹_› ‹_› ‹_› _ | exact hf _ _ ‹_› _ | exact comp_multiDestLoop m hn hf n _

theorem comp_multiTransferSender
    (h : ∀ dst, c.args[0]? = some dst → ∀ i tok nb qb l v, c.args[i]? = some tok → c.args[i + 1]? = some nb →
      c.args[i + 2]? = some qb → P (transferOne env c l dst tok (u64 (beNat nb)) (beNat qb) v)) :
    P (multiTransferSender env c) := by
  unfold multiTransferSender
  comp hP <;> first
    | exact comp_multiSenderLoop hP env c _ _ _ (fun i tok nb qb => h _ ‹_› i tok nb qb _ _) _ _
    | exact comp_multiPayloadLoop hP env _ _

/-- MultiESDTNFTTransfer: the sender loop when caller = receiver, else the destination loop -/
theorem comp_multiTransfer
    (hs : c.caller = c.rcv → ∀ dst, c.args[0]? = some dst → ∀ i tok nb qb l v, c.args[i]? = some tok →
      c.args[i + 1]? = some nb → c.args[i + 2]? = some qb →
      P (transferOne env c l dst tok (u64 (beNat nb)) (beNat qb) v))
    (hn : c.caller ≠ c.rcv → ∀ (i : Nat) tok pl t, c.args[i]? = some tok → c.args[i + 2]? = some pl →
      decToken pl = some t → ∀ mv, P (addNFTToDestination env c.rcv t (esdtKeyPrefix ++ tok) mv c.rae))
    (hf : c.caller ≠ c.rcv → ∀ (i : Nat) tok, c.args[i]? = some tok → ∀ d,
      P (addToESDTBalance c.rcv (esdtKeyPrefix ++ tok) d c.rae)) :
    P (multiTransfer env c) := by
  unfold multiTransfer
  comp hP <;> first
    | exact comp_multiTransferSender hP env c (hs ‹_›)
    | exact comp_multiDestLoop hP env c _ (hn ‹_›) (hf ‹_›) _ _

end functions

end Esdt
