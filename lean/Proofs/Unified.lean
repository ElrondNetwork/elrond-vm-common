/-
  Proofs/Unified.lean — ONE world in which all 23 built-in functions are interleaved: any number of shards, the three
  kinds of cross-shard messages in flight (ESDTTransfer, ESDTNFTTransfer, MultiESDTNFTTransfer: sent, delivered, refused
  and refunded in any order), and on any shard, between any two of those steps, calls of the 20 other functions by
  anybody.  The per-key ledger

      Σ_shards balAt + in flight (all three kinds)  =  what it was  +  Σ stated amounts of the supply operations

  holds after every history (induction over the step list).  The step functions of the three transfer worlds
  (Proofs/Network*, shared shards, each its own in-flight list) are reused as they are: a step of one family leaves the
  other families' messages alone and keeps the shard invariant `SInv` they all rely on.
  What any step does to the shards is said once (`ustep_shards`): it leaves them alone, or replaces ONE shard by the
  result of ONE successful call (`UStep.call?`); so a per-shard invariant survives a step as soon as that call keeps it
  (`ustep_shard`), and a history by `urun_pres`.  The paused / frozen / metadata theorems of Proofs/Unified* rest on these.
-/
import Proofs.TokFrame
import Proofs.NetworkMulti
namespace Esdt

/-! ### every ESDTTransfer call keeps the shard invariant -/

/-- short values and positive metadata nonces, together (the second needs the first for what was just written) -/
def SM (A : Accts) : Prop := Short A ∧ MdPos A

theorem SM.addToESDTBalance (a k : Bytes) (d : Int) (rae : Bool) : Pres SM (addToESDTBalance a k d rae) := by
  intro c hsm
  obtain ⟨hS, hM⟩ := hsm
  apply Post.mono (Post.and (spec_addToESDTBalance a k d rae c) (sp_addToESDTBalance a k d rae c hS))
  intro _ c' ⟨⟨t, v, hold, _, _, _, _, hw⟩, hS'⟩
  refine ⟨hS', ?_⟩
  have hl := hS' a k
  rw [hw, Accts.read_write, if_pos ⟨rfl, rfl⟩] at hl
  rw [hw]
  exact mdpos_write_stored _ _ _ _ hM hold hl

theorem SM.esdtTransfer (env : Env) (c : Call) : Pres SM (esdtTransfer env c) :=
  comp_esdtTransfer Pres.comp env c (fun _ _ _ _ _ => SM.addToESDTBalance _ _ _ _)

theorem esdtTransfer_sinv (env : Env) (c : Call) (A : Accts) (out : VMOutput) (ctx' : Ctx) (hI : SInv A)
    (h : esdtTransfer env c { accts := A } = .ok (out, ctx')) : SInv ctx'.accts := by
  obtain ⟨hS', hM'⟩ := (SM.esdtTransfer env c { accts := A } ⟨hI.short, hI.mdpos⟩).elim h
  exact ⟨nodup_step .esdtTransfer env c { accts := A } ctx' out hI.nodup h,
    (canon_esdtTransfer_all env c { accts := A } ctx' out hI.canon hI.short h).toCanon hS', hS', hM'⟩

/-! ### the 20 functions that are not transfers: what one call does to the ledger of its shard -/

def supplyOpOf : FnId → Option SupplyOp
  | .localMint => some .mint
  | .localBurn => some .localBurn
  | .esdtBurn => some .burn
  | .nftCreate => some .create
  | .nftAddQuantity => some .addQty
  | .nftBurn => some .nftBurn
  | .esdtWipe => some .wipe
  | .esdtFreeze => some .freeze
  | .esdtUnFreeze => some .unfreeze
  | _ => none

def isTransferFn : FnId → Bool
  | .esdtTransfer | .nftTransfer | .multiTransfer => true
  | _ => false

def isPauseFn : FnId → Bool
  | .esdtPause | .esdtUnPause => true
  | _ => false

/-- the amount by which a successful call of a non-transfer function moves the shard's sum of balances under key `k`:
    the stated amount of a supply operation (C02); for pause / un-pause what the system account's own slot was worth
    (it is overwritten by the flag pair — nothing, unless tokens had been sent to the system account itself); 0 for the
    nine other functions -/
def localDelta (f : FnId) (c : Call) (A : Accts) (out : VMOutput) (k : Bytes) : Int :=
  match supplyOpOf f with
  | some op => supplyDelta op c A out k
  | none =>
    if isPauseFn f then
      match c.args[0]? with
      | some tok => if esdtKeyPrefix ++ tok = k then - balOf (A.read systemAccountAddress k) else 0
      | none => 0
    else 0

/-- what is assumed of a call of one of the 20 functions: its arguments are Go slices; a call to oneself runs where the
    caller lives; the system account (the global-settings store) is neither caller nor recipient except for pause /
    un-pause, whose recipient it has to be; an NFT create does not find its counter at 2^64 − 1 -/
structure LocalOK (env : Env) (f : FnId) (c : Call) (A : Accts) : Prop where
  notTransfer : isTransferFn f = false
  argsShort : ArgsShort c
  reach : c.caller = c.rcv → present env.nshards env.self c.caller = true
  notSys : isPauseFn f = false → c.caller ≠ systemAccountAddress ∧ c.rcv ≠ systemAccountAddress
  noWrap : f = .nftCreate → ∀ tok, c.args[0]? = some tok →
    counterOf (A.read c.caller (nonceKeyPrefix ++ tok)) + 1 < two64

theorem local_step (f : FnId) (env : Env) (c : Call) (A : Accts) (out : VMOutput) (ctx' : Ctx) (hI : SInv A)
    (ok : LocalOK env f c A) (h : exec env f c { accts := A } = .ok (out, ctx')) :
    SInv ctx'.accts ∧ ∀ k, TokKey k → balAt ctx'.accts k = balAt A k + localDelta f c A out k := by
  obtain ⟨hN', hC', hS'⟩ :=
    C15base f env c { accts := A } ctx' out hI.nodup hI.canon hI.short ok.argsShort ok.reach h
  have supplyCase : ∀ op, supplyOpOf f = some op → op.run env c { accts := A } = .ok (out, ctx') →
      (op = .create → f = .nftCreate) →
      SInv ctx'.accts ∧ ∀ k, TokKey k → balAt ctx'.accts k = balAt A k + localDelta f c A out k := by
    intro op hop hrun hcr
    have hp : isPauseFn f = false := by cases f <;> simp [supplyOpOf] at hop <;> rfl
    obtain ⟨hcs, hrs⟩ := ok.notSys hp
    obtain ⟨hI', hb⟩ := supply_step op env c A out ctx' hI hcs hrs (fun ho => ok.noWrap (hcr ho)) hrun
    refine ⟨hI', fun k hk => ?_⟩
    rw [hb k hk]; simp only [localDelta, hop]
  have plainCase : PlainFn f →
      SInv ctx'.accts ∧ ∀ k, TokKey k → balAt ctx'.accts k = balAt A k + localDelta f c A out k := by
    intro hf
    obtain ⟨hM', hb⟩ := plain_step hf env c A out ctx' hI.nodup hI.mdpos h
    refine ⟨⟨hN', hC', hS', hM'⟩, fun k hk => ?_⟩
    rw [hb k hk]
    have : localDelta f c A out k = 0 := by cases hf <;> simp [localDelta, supplyOpOf, isPauseFn]
    omega
  have pauseCase : ∀ p, isPauseFn f = true → esdtPause p env c { accts := A } = .ok (out, ctx') →
      SInv ctx'.accts ∧ ∀ k, TokKey k → balAt ctx'.accts k = balAt A k + localDelta f c A out k := by
    intro p hp hrun
    obtain ⟨tok, h0, hM', hb⟩ := pause_step p env c A out ctx' hI.nodup hI.mdpos hrun
    refine ⟨⟨hN', hC', hS', hM'⟩, fun k _ => ?_⟩
    rw [hb k]
    have hnone : supplyOpOf f = none := by cases f <;> simp [isPauseFn] at hp <;> rfl
    simp only [localDelta, hnone, hp, if_true, h0]
    split <;> omega
  have metaCase : ∀ (m' : MetaData → List Bytes → MetaData),
      (∀ m l, (m' m l).royalties = m.royalties) →
      isPauseFn f = false → supplyOpOf f = none →
      (∃ tok nb t m l, c.args[0]? = some tok ∧ c.args[1]? = some nb ∧ u64 (beNat nb) ≠ 0 ∧
        MetaWrite A ctx'.accts c.caller (esdtKeyPrefix ++ tok) (u64 (beNat nb)) t m (m' m l) ∧
        (m.nonce = 0 ∨ m.nonce = u64 (beNat nb))) →
      SInv ctx'.accts ∧ ∀ k, TokKey k → balAt ctx'.accts k = balAt A k + localDelta f c A out k := by
    intro m' hroy hp hnone ⟨tok, nb, t, m, l, _, _, _, hw, hnon⟩
    obtain ⟨hcs, _⟩ := ok.notSys hp
    obtain ⟨hM', hb⟩ := metaWrite_step hw hI.nodup hI.canon hI.mdpos hS' hcs hnon (hroy m l)
    refine ⟨⟨hN', hC', hS', hM'⟩, fun k _ => ?_⟩
    rw [hb k]; simp only [localDelta, hnone, hp]; simp
  have hnt := ok.notTransfer
  unfold exec at h
  cases f <;> simp only [runFn] at h
  · exact plainCase .claim
  · exact plainCase .owner
  · exact plainCase .name
  · exact plainCase .skv
  · exact pauseCase true rfl h
  · exact pauseCase false rfl h
  · cases hnt
  · exact supplyCase .burn rfl h (fun ho => by cases ho)
  · exact supplyCase .freeze rfl h (fun ho => by cases ho)
  · exact supplyCase .unfreeze rfl h (fun ho => by cases ho)
  · exact supplyCase .wipe rfl h (fun ho => by cases ho)
  · exact plainCase .unSetRole
  · exact plainCase .setRole
  · exact supplyCase .localBurn rfl h (fun ho => by cases ho)
  · exact supplyCase .mint rfl h (fun ho => by cases ho)
  · exact supplyCase .addQty rfl h (fun ho => by cases ho)
  · exact supplyCase .nftBurn rfl h (fun ho => by cases ho)
  · exact supplyCase .create rfl h (fun _ => rfl)
  · cases hnt
  · exact plainCase .handOver
  · -- update attributes
    refine metaCase (fun m l => { m with attributes := l.headD [] }) (fun _ _ => rfl) rfl rfl ?_
    obtain ⟨⟨tok, nb, attrs, t, m, h0, h1, h2, hn0, hw⟩, hnon⟩ :=
      (Post.and (updateAttributes_effect env c { accts := A }) (updateAttributes_nonce env c { accts := A })).elim h
    exact ⟨tok, nb, t, m, [attrs], h0, h1, hn0, hw, hnon tok nb t m h0 h1 hw.old hw.hasMeta⟩
  · -- add URI
    refine metaCase (fun m l => { m with uris := m.uris ++ l }) (fun _ _ => rfl) rfl rfl ?_
    obtain ⟨⟨tok, nb, t, m, h0, h1, hn0, hw⟩, hnon⟩ :=
      (Post.and (addURI_effect env c { accts := A }) (addURI_nonce env c { accts := A })).elim h
    exact ⟨tok, nb, t, m, c.args.drop 2, h0, h1, hn0, hw, hnon tok nb t m h0 h1 hw.old hw.hasMeta⟩
  · cases hnt

/-! ### the world -/

structure UWorld where
  shards : List Accts          -- index = shard id
  ft : List Msg                -- ESDTTransfer messages in flight
  nft : List NMsg              -- ESDTNFTTransfer messages in flight
  multi : List MMsg            -- MultiESDTNFTTransfer messages in flight

def UWorld.toN (w : UWorld) : NWorld := { shards := w.shards, inflight := w.ft }
def UWorld.toNFT (w : UWorld) : NFTWorld := { shards := w.shards, inflight := w.nft }
def UWorld.toM (w : UWorld) : MWorld := { shards := w.shards, inflight := w.multi }

inductive UStep
  | ft (st : NStep)                      -- ESDTTransfer: a user transaction / a delivery / a refund
  | nft (st : NStep)                     -- ESDTNFTTransfer: the same three
  | multi (st : NStep)                   -- MultiESDTNFTTransfer: the same three
  | call (s : Nat) (f : FnId) (c : Call) -- any other function, called by anybody on shard `s`

/-- one step; a failed call changes nothing (node rollback) -/
def ustep (e : Env) (w : UWorld) : UStep → UWorld
  | .ft st => let w' := nstep e w.toN st; { w with shards := w'.shards, ft := w'.inflight }
  | .nft st => let w' := nftStep e w.toNFT st; { w with shards := w'.shards, nft := w'.inflight }
  | .multi st => let w' := multiStep e w.toM st; { w with shards := w'.shards, multi := w'.inflight }
  | .call s f c =>
    match w.shards[s]? with
    | none => w
    | some A =>
      match exec { e with self := s } f c { accts := A } with
      | .ok (_, ctx') => { w with shards := w.shards.set s ctx'.accts }
      | _ => w

/-- what the step adds to the ledger under key `k` (0 for every transfer step and every failed call) -/
def issued (e : Env) (w : UWorld) : UStep → Bytes → Int
  | .call s f c, k =>
    match w.shards[s]? with
    | none => 0
    | some A =>
      match exec { e with self := s } f c { accts := A } with
      | .ok (out, _) => localDelta f c A out k
      | _ => 0
  | _, _ => 0

/-- the per-key ledger of the world: every balance on every shard plus everything in flight -/
def usupply (w : UWorld) (k : Bytes) : Int :=
  (w.shards.map (balAt · k)).sum + flightAt w.ft k + nflightAt w.nft k + mflightAt w.multi k

structure UInv (e : Env) (w : UWorld) : Prop where
  shards : ∀ A ∈ w.shards, SInv A
  ft : ∀ m ∈ w.ft, MsgOK e m
  nft : ∀ m ∈ w.nft, NMsgOK e m
  multi : ∀ m ∈ w.multi, MMsgOK e m

/-- what is assumed of a step, on the world it runs on -/
def UStepOK (e : Env) (w : UWorld) : UStep → Prop
  | .ft st => NStepOK st
  | .nft st => NFTStepOK st
  | .multi st => MultiStepOK st
  | .call s f c => ∀ A, w.shards[s]? = some A → LocalOK { e with self := s } f c A

theorem UInv.toN {e : Env} {w : UWorld} (h : UInv e w) : WorldInv e w.toN :=
  ⟨fun A hA => (h.shards A hA).nodup, h.ft⟩
theorem UInv.toNFT {e : Env} {w : UWorld} (h : UInv e w) : NWorldInv e w.toNFT := ⟨h.shards, h.nft, trivial⟩
theorem UInv.toM {e : Env} {w : UWorld} (h : UInv e w) : MWorldInv e w.toM := ⟨h.shards, h.multi⟩

/-! ### what a step does to the shards -/

/-- the one call a step makes: on which shard, of which function, with which arguments -/
def UStep.call? (e : Env) (w : UWorld) : UStep → Option (Nat × FnId × Call)
  | .call s f c => some (s, f, c)
  | .ft (.user c) => some (shardOf e.nshards c.caller, .esdtTransfer, c)
  | .ft (.deliver j) => w.ft[j]?.map fun m => (shardOf e.nshards m.rcv, .esdtTransfer, deliveryCall m)
  | .ft (.refund j) => w.ft[j]?.map fun m => (shardOf e.nshards m.caller, .esdtTransfer, refundCall m)
  | .nft (.user c) => some (shardOf e.nshards c.caller, .nftTransfer, c)
  | .nft (.deliver j) => w.nft[j]?.map fun m => (shardOf e.nshards m.rcv, .nftTransfer, nDeliveryCall m)
  | .nft (.refund j) => w.nft[j]?.map fun m => (shardOf e.nshards m.caller, .nftTransfer, nRefundCall m)
  | .multi (.user c) => some (shardOf e.nshards c.caller, .multiTransfer, c)
  | .multi (.deliver j) => w.multi[j]?.map fun m => (shardOf e.nshards m.rcv, .multiTransfer, mDeliveryCall m)
  | .multi (.refund j) => w.multi[j]?.map fun m => (shardOf e.nshards m.caller, .multiTransfer, mRefundCall m)

/-- the shards after a step: as before, or shard `s` replaced by the result of the step's call, which succeeded -/
def ShardsAfter (e : Env) (w : UWorld) (st : UStep) (sh : List Accts) : Prop :=
  sh = w.shards ∨ ∃ s f c A out ctx', st.call? e w = some (s, f, c) ∧ w.shards[s]? = some A ∧
    exec { e with self := s } f c { accts := A } = .ok (out, ctx') ∧ sh = w.shards.set s ctx'.accts

/-- a move of one of the three wires (Proofs/Wire.lean), read as a step of this world: `f` is the function the wire runs,
    `st` the step, whose call is the one the move made -/
theorem Wire.Move.shardsAfter {μ : Type} {W : Wire μ} {e : Env} {w : UWorld} {M M' : List μ} {n : NStep} {S' : List Accts}
    (h : W.Move e w.shards M n S' M') (st : UStep) (f : FnId) (hf : ∀ env c ctx, exec env f c ctx = W.fn env c ctx)
    (hu : ∀ c, n = .user c → st.call? e w = some (shardOf e.nshards c.caller, f, c))
    (ha : ∀ i m c, M[i]? = some m → W.Leg m n i c → st.call? e w = some (shardOf e.nshards c.rcv, f, c)) :
    ShardsAfter e w st S' := by
  cases h with
  | stay => exact Or.inl rfl
  | sent hr => exact Or.inr ⟨_, f, _, _, _, _, hu _ rfl, hr.shard, (hf _ _ _).trans hr.run, rfl⟩
  | arrived hm hl hr => exact Or.inr ⟨_, f, _, _, _, _, ha _ _ _ hm hl, hr.shard, (hf _ _ _).trans hr.run, rfl⟩
  | bounced _ _ => exact Or.inl rfl

theorem ustep_shards (e : Env) (w : UWorld) (st : UStep) : ShardsAfter e w st (ustep e w st).shards := by
  cases st with
  | call s f c =>
    simp only [ustep]
    split
    · exact Or.inl rfl
    · rename_i A hA
      split
      · rename_i out ctx' hex
        exact Or.inr ⟨s, f, c, A, out, ctx', rfl, hA, hex, rfl⟩
      · exact Or.inl rfl
  | ft n =>
    refine (nstep_move e w.toN n).shardsAfter (.ft n) .esdtTransfer (fun _ _ _ => rfl) (fun c hn => by subst hn; rfl)
      (fun i m c hm hl => ?_)
    cases hl <;> exact (congrArg (Option.map _) (show w.ft[i]? = some m from hm)).trans rfl
  | nft n =>
    refine (nftStep_move e w.toNFT n).shardsAfter (.nft n) .nftTransfer (fun _ _ _ => rfl) (fun c hn => by subst hn; rfl)
      (fun i m c hm hl => ?_)
    cases hl <;> exact (congrArg (Option.map _) (show w.nft[i]? = some m from hm)).trans rfl
  | multi n =>
    refine (multiStep_move e w.toM n).shardsAfter (.multi n) .multiTransfer (fun _ _ _ => rfl)
      (fun c hn => by subst hn; rfl) (fun i m c hm hl => ?_)
    cases hl <;> exact (congrArg (Option.map _) (show w.multi[i]? = some m from hm)).trans rfl

/-- what the step's call has to do for `I` to survive the step: run on a shard where `I` holds, it ends, if it succeeds,
    in a state where `I` holds -/
def CallKeeps (I : Accts → Prop) (e : Env) (w : UWorld) (st : UStep) : Prop :=
  ∀ s f c, st.call? e w = some (s, f, c) → ∀ A, w.shards[s]? = some A → I A →
    Post (runFn f { e with self := s } c) { accts := A } (fun _ ctx' => I ctx'.accts)

theorem getElem?_set_pres {P : Accts → Prop} {l : List Accts} {i : Nat} {A : Accts} (hA : l[i]? = some A) (hP : P A)
    (s : Nat) (A1 : Accts) (h1 : ∀ A0, l[s]? = some A0 → s = i → P A1) : ∃ A', (l.set s A1)[i]? = some A' ∧ P A' := by
  rw [List.getElem?_set]
  by_cases hs : s = i
  · subst hs
    have hlt : s < l.length := by
      rcases Nat.lt_or_ge s l.length with h | h
      · exact h
      · rw [List.getElem?_eq_none h] at hA; cases hA
    rw [if_pos rfl, if_pos hlt]
    exact ⟨A1, rfl, h1 A hA rfl⟩
  · rw [if_neg hs]; exact ⟨A, hA, hP⟩

section
variable {I : Accts → Prop} {e : Env} {w : UWorld} {st : UStep}

/-- an invariant of shard `i` survives a step whose call keeps it -/
theorem ustep_shard (i : Nat) (h : CallKeeps I e w st) (hF : ∃ A, w.shards[i]? = some A ∧ I A) :
    ∃ A, (ustep e w st).shards[i]? = some A ∧ I A := by
  obtain ⟨A, hA, hI⟩ := hF
  rcases ustep_shards e w st with h0 | ⟨s, f, c, A0, out, ctx', hc, hA0, hex, h1⟩
  · rw [h0]; exact ⟨A, hA, hI⟩
  · rw [h1]
    refine getElem?_set_pres hA hI s _ (fun A0' hA0' hs => ?_)
    subst hs
    rw [hA] at hA0; cases hA0
    exact (h s f c hc A hA hI).elim hex

/-- an invariant of every shard survives a step whose call keeps it -/
theorem ustep_shards_all (h : CallKeeps I e w st) (hW : ∀ A ∈ w.shards, I A) : ∀ A ∈ (ustep e w st).shards, I A := by
  rcases ustep_shards e w st with h0 | ⟨s, f, c, A0, out, ctx', hc, hA0, hex, h1⟩
  · rw [h0]; exact hW
  · rw [h1]
    exact mem_set_of _ _ _ _ hW ((h s f c hc A0 hA0 (hW A0 (List.mem_of_getElem? hA0))).elim hex)

end

/-- an ESDTTransfer step runs ESDTTransfer -/
theorem UStep.call?_ft {e : Env} {w : UWorld} {st : NStep} {s : Nat} {f : FnId} {c : Call}
    (h : (UStep.ft st).call? e w = some (s, f, c)) : f = .esdtTransfer := by
  cases st with
  | user c' => cases h; rfl
  | deliver j => obtain ⟨m, _, h⟩ := Option.map_eq_some_iff.mp h; cases h; rfl
  | refund j => obtain ⟨m, _, h⟩ := Option.map_eq_some_iff.mp h; cases h; rfl

/-- FULL per step: the ledger moves by exactly what the step issues, and the world invariant is kept -/
theorem ustep_ledger (e : Env) (w : UWorld) (st : UStep) (hI : UInv e w) (hok : UStepOK e w st) :
    (∀ k, TokKey k → usupply (ustep e w st) k = usupply w k + issued e w st k) ∧ UInv e (ustep e w st) := by
  cases st with
  | ft st =>
    have hsh : ∀ A ∈ (nstep e w.toN st).shards, SInv A :=
      ustep_shards_all (st := .ft st) (fun s f c hc A _ hA => by
        cases UStep.call?_ft hc
        exact Post.of_forall fun out ctx' hex => esdtTransfer_sinv _ c A out ctx' hA hex) hI.shards
    have hSW : ShortW (nstep e w.toN st) := fun A hA => (hsh A hA).short
    refine ⟨fun k _ => ?_, ?_⟩
    · have := (nstep_supply e w.toN st hI.toN hok hSW k).1
      simp only [supply, UWorld.toN] at this
      simp only [usupply, ustep, issued, UWorld.toN]
      omega
    · exact ⟨hsh, (nstep_supply e w.toN st hI.toN hok hSW []).2.msgs, hI.nft, hI.multi⟩
  | nft st =>
    have h2 := (nftStep_supply e w.toNFT st hI.toNFT hok []).2
    refine ⟨fun k _ => ?_, ?_⟩
    · have := (nftStep_supply e w.toNFT st hI.toNFT hok k).1
      simp only [nsupply, UWorld.toNFT] at this
      simp only [usupply, ustep, issued, UWorld.toNFT]
      omega
    · exact ⟨h2.shards, hI.ft, h2.msgs, hI.multi⟩
  | multi st =>
    have h2 := (multiStep_supply e w.toM st hI.toM hok []).2
    refine ⟨fun k _ => ?_, ?_⟩
    · have := (multiStep_supply e w.toM st hI.toM hok k).1
      simp only [msupply, UWorld.toM] at this
      simp only [usupply, ustep, issued, UWorld.toM]
      omega
    · exact ⟨h2.shards, hI.ft, hI.nft, h2.msgs⟩
  | call s f c =>
    simp only [ustep, issued]
    cases hA : w.shards[s]? with
    | none => exact ⟨fun k _ => by simp, hI⟩
    | some A =>
      simp only []
      cases hex : exec { e with self := s } f c { accts := A } with
      | ok p =>
        obtain ⟨out, ctx'⟩ := p
        simp only []
        obtain ⟨hI', hb⟩ := local_step f { e with self := s } c A out ctx' (hI.shards A (List.mem_of_getElem? hA))
          (hok A hA) hex
        refine ⟨fun k hk => ?_, ⟨mem_set_of _ _ _ _ hI.shards hI', hI.ft, hI.nft, hI.multi⟩⟩
        simp only [usupply]
        rw [sum_map_set (balAt · k) w.shards s A ctx'.accts hA, hb k hk]
        omega
      | err er => exact ⟨fun k _ => by simp, hI⟩
      | panic => exact ⟨fun k _ => by simp, hI⟩

/-! ### histories -/

/-- run the steps in order; returns the final world and, per key, everything the successful calls issued -/
def urun (e : Env) : List UStep → UWorld → UWorld × (Bytes → Int)
  | [], w => (w, fun _ => 0)
  | st :: rest, w =>
    let r := urun e rest (ustep e w st)
    (r.1, fun k => issued e w st k + r.2 k)

/-- every step is admissible on the world it runs on -/
def UStepsOK (e : Env) : List UStep → UWorld → Prop
  | [], _ => True
  | st :: rest, w => UStepOK e w st ∧ UStepsOK e rest (ustep e w st)

/-- histories: `P` is carried along every run whose steps satisfy `R`, a condition on the steps still to come and the
    world they start from (`UPzStepsOK`, `UFzStepsOK2`, `UMdStepsOK`, …) -/
theorem urun_pres (e : Env) {P : UWorld → Prop} {R : List UStep → UWorld → Prop}
    (hstep : ∀ st rest w, UInv e w → UStepOK e w st → R (st :: rest) w → P w →
      P (ustep e w st) ∧ R rest (ustep e w st)) :
    ∀ (steps : List UStep) (w : UWorld), UInv e w → UStepsOK e steps w → R steps w → P w → P (urun e steps w).1 := by
  intro steps
  induction steps with
  | nil => intro w _ _ _ hP; exact hP
  | cons st rest ih =>
    intro w hI hok hR hP
    obtain ⟨hP1, hR1⟩ := hstep st rest w hI hok.1 hR hP
    exact ih (ustep e w st) (ustep_ledger e w st hI hok.1).2 hok.2 hR1 hP1

/-- FULL over histories: after ANY interleaving of the 23 functions on any number of shards, with the three kinds of
    messages delivered, refused and refunded in any order, the ledger of every token key is what it was plus the stated
    amounts of the supply operations that succeeded — and the world invariant still holds -/
theorem unified_history (e : Env) : ∀ (steps : List UStep) (w : UWorld), UInv e w → UStepsOK e steps w →
    (∀ k, TokKey k → usupply (urun e steps w).1 k = usupply w k + (urun e steps w).2 k) ∧ UInv e (urun e steps w).1 := by
  intro steps
  induction steps with
  | nil => intro w hI _; exact ⟨fun k _ => by simp [urun], hI⟩
  | cons st rest ih =>
    intro w hI hok
    obtain ⟨h1, hrest⟩ := hok
    obtain ⟨hb1, hI1⟩ := ustep_ledger e w st hI h1
    obtain ⟨hb2, hI2⟩ := ih (ustep e w st) hI1 hrest
    refine ⟨fun k hk => ?_, hI2⟩
    simp only [urun]
    rw [hb2 k hk, hb1 k hk]; omega

end Esdt
