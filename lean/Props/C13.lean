/-
  Props/C13.lean — C13: execution is deterministic and does not modify its input  (PARTIAL: the runtime part —
  map iteration order, goroutines, aliasing of the caller's slices — is decided by run-vs-run comparison on the
  implementation, profile `determinism`; see DESIGN §8 C13).
  Proved here: (1) in the model a call's result is a function of (own configuration of the function object, flag,
  call, pre-state) — no other part of the schedule, no history; (2) a model of Go slices in which `append` on a
  slice without spare capacity writes nothing that is reachable from it, instantiated with the regenerated fact
  that no key prefix of any function object has spare capacity.
-/
import Model.World
import Facts.Generated
namespace C13
open Esdt

/-! ### (1) dependence only on the function's own configuration -/

/-- the part of the schedule a function object copies (`SetNewGasConfig`): its own entry and, for the functions
    with per-byte components, the base costs; everything else is zeroed -/
def ownGas (f : FnId) (g : GasCost) : GasCost :=
  match f with
  | .changeOwnerAddress => { fn := { changeOwnerAddress := g.fn.changeOwnerAddress } }
  | .claimDeveloperRewards => { fn := { claimDeveloperRewards := g.fn.claimDeveloperRewards } }
  | .setUserName => { fn := { saveUserName := g.fn.saveUserName } }
  | .saveKeyValue => { fn := { saveKeyValue := g.fn.saveKeyValue }, base := g.base }
  | .esdtTransfer => { fn := { esdtTransfer := g.fn.esdtTransfer } }
  | .esdtBurn => { fn := { esdtBurn := g.fn.esdtBurn } }
  | .localMint => { fn := { esdtLocalMint := g.fn.esdtLocalMint } }
  | .localBurn => { fn := { esdtLocalBurn := g.fn.esdtLocalBurn } }
  | .nftCreate => { fn := { esdtNFTCreate := g.fn.esdtNFTCreate }, base := g.base }
  | .nftAddQuantity => { fn := { esdtNFTAddQuantity := g.fn.esdtNFTAddQuantity } }
  | .nftBurn => { fn := { esdtNFTBurn := g.fn.esdtNFTBurn } }
  | .nftTransfer => { fn := { esdtNFTTransfer := g.fn.esdtNFTTransfer }, base := g.base }
  | .multiTransfer => { fn := { esdtNFTMultiTransfer := g.fn.esdtNFTMultiTransfer }, base := g.base }
  | .nftAddURI => { fn := { esdtNFTAddURI := g.fn.esdtNFTAddURI }, base := g.base }
  | .nftUpdateAttributes => { fn := { esdtNFTUpdateAttributes := g.fn.esdtNFTUpdateAttributes }, base := g.base }
  | _ => {}

/-- environments that differ only in the gas schedule, with equal base costs -/
def SameButFn (env env' : Env) : Prop :=
  env' = { env with gas := env'.gas } ∧ env'.gas.base = env.gas.base

theorem verifyPayable_congr (env : Env) (g : GasCost) (a : Bytes) :
    verifyPayable { env with gas := g } a = verifyPayable env a := by unfold verifyPayable; rfl
theorem verifyPayableIf_congr (env : Env) (g : GasCost) (b : Bool) (a : Bytes) :
    verifyPayableIf { env with gas := g } b a = verifyPayableIf env b a := by unfold verifyPayableIf; rw [verifyPayable_congr]
theorem addNFTToDestination_congr (env : Env) (g : GasCost) (d : Bytes) (t : Token) (k : Bytes) (v r : Bool) :
    addNFTToDestination { env with gas := g } d t k v r = addNFTToDestination env d t k v r := by
  unfold addNFTToDestination; rw [verifyPayableIf_congr]
theorem transferOne_congr (env : Env) (g : GasCost) (c : Call) (l : Bool) (d t : Bytes) (n q : Nat) (v : Bool) :
    transferOne { env with gas := g } c l d t n q v = transferOne env c l d t n q v := by
  unfold transferOne; simp only [addNFTToDestination_congr]
theorem multiSenderLoop_congr (env : Env) (g : GasCost) (c : Call) (l : Bool) (d : Bytes) (v : Bool) :
    ∀ n idx, multiSenderLoop { env with gas := g } c l d v n idx = multiSenderLoop env c l d v n idx := by
  intro n
  induction n with
  | zero => intro idx; unfold multiSenderLoop; rfl
  | succ n ih => intro idx; unfold multiSenderLoop; simp only [transferOne_congr, ih]
theorem multiDestLoop_congr (env : Env) (g : GasCost) (c : Call) (m : Nat) :
    ∀ n idx, multiDestLoop { env with gas := g } c m n idx = multiDestLoop env c m n idx := by
  intro n
  induction n with
  | zero => intro idx; unfold multiDestLoop; rfl
  | succ n ih => intro idx; unfold multiDestLoop; simp only [addNFTToDestination_congr, verifyPayableIf_congr, ih]
theorem multiPayloadLoop_congr (env : Env) (g : GasCost) (hb : g.base = env.gas.base) :
    ∀ toks gr, multiPayloadLoop { env with gas := g } toks gr = multiPayloadLoop env toks gr := by
  intro toks
  induction toks with
  | nil => intro gr; unfold multiPayloadLoop; rfl
  | cons p rest ih => intro gr; obtain ⟨tk, t⟩ := p; unfold multiPayloadLoop; simp only [ih, hb]
theorem skvLoop_congr (env : Env) (g : GasCost) (c : Call) (hb : g.base = env.gas.base) :
    ∀ (n : Nat) (l : List Bytes) (u : Nat), l.length ≤ n → skvLoop { env with gas := g } c l u = skvLoop env c l u := by
  intro n
  induction n with
  | zero =>
    intro l u hl
    have : l = [] := List.eq_nil_of_length_eq_zero (by omega)
    subst this; unfold skvLoop; rfl
  | succ n ih =>
    intro l u hl
    match l, hl with
    | [], _ => unfold skvLoop; rfl
    | [_], _ => unfold skvLoop; rfl
    | k :: v :: rest, hl =>
      unfold skvLoop
      simp only [hb]
      simp only [ih rest _ (by simp at hl; omega)]

/-- the result of a call depends on the schedule only through the function's own copied fields -/
theorem depends_only_on_own_config (f : FnId) (env : Env) (c : Call) :
    runFn f env c = runFn f { env with gas := ownGas f env.gas } c := by
  cases f <;> simp only [runFn]
  · unfold claimDeveloperRewards; rfl
  · unfold changeOwnerAddress; rfl
  · unfold setUserName; rfl
  · unfold saveKeyValue
    rw [skvLoop_congr env (ownGas .saveKeyValue env.gas) c rfl _ _ _ (Nat.le_refl _)]; rfl
  · unfold esdtPause; rfl
  · unfold esdtPause; rfl
  · unfold esdtTransfer; simp only [verifyPayableIf_congr env (ownGas .esdtTransfer env.gas)]; rfl
  · unfold esdtBurn; rfl
  · unfold esdtFreezeWipe; rfl
  · unfold esdtFreezeWipe; rfl
  · unfold esdtFreezeWipe; rfl
  · unfold esdtRoles; rfl
  · unfold esdtRoles; rfl
  · unfold esdtLocalBurn; rfl
  · unfold esdtLocalMint; rfl
  · unfold esdtNFTAddQuantity; rfl
  · unfold esdtNFTBurn; rfl
  · unfold esdtNFTCreate; rfl
  · unfold esdtNFTTransfer esdtNFTTransferSender; simp only [addNFTToDestination_congr env (ownGas .nftTransfer env.gas)]; rfl
  · unfold esdtNFTCreateRoleTransfer; rfl
  · unfold esdtNFTUpdateAttributes; rfl
  · unfold esdtNFTAddURI; rfl
  · unfold multiTransfer multiTransferSender
    simp only [multiSenderLoop_congr env (ownGas .multiTransfer env.gas), multiDestLoop_congr env (ownGas .multiTransfer env.gas),
      multiPayloadLoop_congr env (ownGas .multiTransfer env.gas) rfl]
    rfl

/-- … hence two function objects that received different schedules with the same own entry behave identically, for
    every call and pre-state (no hidden per-object state, no dependence on earlier unrelated calls) -/
theorem same_own_config_same_behaviour (f : FnId) (env : Env) (g1 g2 : GasCost) (c : Call) (ctx : Ctx)
    (h : ownGas f g1 = ownGas f g2) :
    exec { env with gas := g1 } f c ctx = exec { env with gas := g2 } f c ctx := by
  unfold exec
  rw [depends_only_on_own_config f { env with gas := g1 } c, depends_only_on_own_config f { env with gas := g2 } c]
  simp only [h]

/-- determinism of the model: equal inputs, equal result (results are values; nothing is mutated in place) -/
theorem exec_deterministic (env : Env) (f : FnId) (c1 c2 : Call) (ctx1 ctx2 : Ctx)
    (hc : c1 = c2) (hx : ctx1 = ctx2) : exec env f c1 ctx1 = exec env f c2 ctx2 := by rw [hc, hx]

/-! ### (2) Go slices: `append` on a full slice does not write shared memory -/

/-- a Go byte slice: backing array id, offset, length, capacity (remaining from offset) -/
structure Slice where
  arr : Nat
  off : Nat
  len : Nat
  cap : Nat

/-- memory: backing arrays by id (id < next are allocated) -/
structure Mem where
  arrays : Nat → List UInt8
  next : Nat

def writeAt (l : List UInt8) (pos : Nat) (xs : List UInt8) : List UInt8 :=
  l.take pos ++ xs ++ l.drop (pos + xs.length)

/-- `append(s, xs...)` -/
def goAppend (m : Mem) (s : Slice) (xs : List UInt8) : Mem × Slice :=
  if s.len + xs.length ≤ s.cap then
    -- room in the backing array: written in place (visible to every slice sharing the array)
    ({ m with arrays := fun i => if i = s.arr then writeAt (m.arrays i) (s.off + s.len) xs else m.arrays i },
     { s with len := s.len + xs.length })
  else
    -- reallocation: fresh array holding a copy
    ({ arrays := fun i => if i = m.next then ((m.arrays s.arr).drop s.off).take s.len ++ xs else m.arrays i, next := m.next + 1 },
     { arr := m.next, off := 0, len := s.len + xs.length, cap := s.len + xs.length })

/-- with no spare capacity, a non-empty append leaves EVERY allocated array — in particular the prefix's — unchanged -/
theorem append_full_writes_nothing_shared (m : Mem) (s : Slice) (xs : List UInt8) (hfull : s.cap = s.len)
    (hne : xs ≠ []) (i : Nat) (hi : i < m.next) : (goAppend m s xs).1.arrays i = m.arrays i := by
  have hlen : 0 < xs.length := List.length_pos_iff.mpr hne
  have : ¬ s.len + xs.length ≤ s.cap := by omega
  simp only [goAppend, this, if_false]
  have : i ≠ m.next := by omega
  simp [this]

/-- appending nothing writes nothing (either branch) -/
theorem append_nil_writes_nothing (m : Mem) (s : Slice) (i : Nat) (hi : i < m.next) (hs : s.off + s.len ≤ (m.arrays s.arr).length) :
    (goAppend m s []).1.arrays i = m.arrays i := by
  unfold goAppend
  split
  · simp only []
    split
    · rename_i he; subst he; simp [writeAt]
    · rfl
  · have : i ≠ m.next := by omega
    simp [this]

/-- necessity of the fact: WITH spare capacity the append writes into the shared array (two appends on the same
    prefix would overwrite each other — the data race C19 is about) -/
example : (goAppend { arrays := fun _ => [1, 2, 0, 0], next := 1 } { arr := 0, off := 0, len := 2, cap := 4 } [9]).1.arrays 0
    = [1, 2, 9, 0] := by decide

/-- regenerated on every run by inspecting the real function objects through the `verif` hook: no key prefix
    (per object or package level) has cap > len -/
theorem no_prefix_has_spare_capacity : Facts.prefixesWithSpareCapacity = [] := rfl

end C13
