/-
  Props/C19.lean — C19: the container, the atomics and gas reconfiguration are safe under concurrency (PARTIAL: a data
  race is an event of the Go memory model that no Lean model exhibits; races are searched with `-race` stress and
  recorded histories are checked for linearizability by harness/cmd/conc — see DESIGN §8 C19).
  Proved here: (1) an abstract readers-writer lock: mutual exclusion, and "the protected data only changes while exactly
  one thread is inside a write section and nobody is inside a read section" — so every critical section is atomic with
  respect to the data, for any number of threads and any interleaving; (2) the lock discipline `D` that makes (1)
  applicable — every access of a guarded field under the lock, writes under the write lock, every method ONE critical
  section (no check-then-act across two sections, no schedule read in two sections) — decided by the kernel on the lock
  facts regenerated from the source of every mutex-protected type on every run.
-/
import Facts.Generated
import Proofs.Linearizable
namespace C19

/-! ### (1) the readers-writer lock as a transition system (counter abstraction: thread identities do not matter) -/

inductive Lock
  | free
  | readers (n : Nat)     -- n ≥ 1 threads hold the read lock
  | writer
deriving DecidableEq, Repr

/-- `r` / `w`: number of threads inside a read / write critical section; `data`: the protected state -/
structure St (σ : Type) where
  lock : Lock
  r : Nat
  w : Nat
  data : σ

inductive Step {σ : Type} : St σ → St σ → Prop
  | acqR_free (s : St σ) : s.lock = .free → Step s { s with lock := .readers 1, r := s.r + 1 }
  | acqR_more (s : St σ) (n : Nat) : s.lock = .readers n → Step s { s with lock := .readers (n + 1), r := s.r + 1 }
  | acqW (s : St σ) : s.lock = .free → Step s { s with lock := .writer, w := s.w + 1 }
  | relR_last (s : St σ) : s.lock = .readers 1 → Step s { s with lock := .free, r := s.r - 1 }
  | relR_more (s : St σ) (n : Nat) : s.lock = .readers (n + 2) → Step s { s with lock := .readers (n + 1), r := s.r - 1 }
  | relW (s : St σ) : s.lock = .writer → Step s { s with lock := .free, w := s.w - 1 }
  /-- a thread inside a WRITE section mutates the data (what discipline `D` guarantees about writes) -/
  | write (s : St σ) (f : σ → σ) : 1 ≤ s.w → Step s { s with data := f s.data }
  /-- a thread inside a read or write section reads -/
  | read (s : St σ) : 1 ≤ s.r ∨ 1 ≤ s.w → Step s s

inductive Reach {σ : Type} (d0 : σ) : St σ → Prop
  | init : Reach d0 { lock := .free, r := 0, w := 0, data := d0 }
  | step {s s' : St σ} : Reach d0 s → Step s s' → Reach d0 s'

def Inv {σ : Type} (s : St σ) : Prop :=
  match s.lock with
  | .free => s.r = 0 ∧ s.w = 0
  | .readers n => 1 ≤ n ∧ s.r = n ∧ s.w = 0
  | .writer => s.r = 0 ∧ s.w = 1

theorem inv_step {σ : Type} (s s' : St σ) (h : Inv s) (st : Step s s') : Inv s' := by
  cases st with
  | acqR_free hl => simp only [Inv, hl] at h ⊢; omega
  | acqR_more n hl => simp only [Inv, hl] at h ⊢; omega
  | acqW hl => simp only [Inv, hl] at h ⊢; omega
  | relR_last hl => simp only [Inv, hl] at h ⊢; omega
  | relR_more n hl => simp only [Inv, hl] at h ⊢; omega
  | relW hl => simp only [Inv, hl] at h ⊢; omega
  | write f hw => exact h
  | read hr => exact h

theorem inv_reach {σ : Type} (d0 : σ) (s : St σ) (h : Reach d0 s) : Inv s := by
  induction h with
  | init => simp [Inv]
  | step _ st ih => exact inv_step _ _ ih st

/-- mutual exclusion, for every reachable state of every execution with any number of threads:
    at most one writer, and a writer excludes every reader -/
theorem mutual_exclusion {σ : Type} (d0 : σ) (s : St σ) (h : Reach d0 s) : s.w ≤ 1 ∧ (s.w = 1 → s.r = 0) := by
  have hi := inv_reach d0 s h
  unfold Inv at hi
  cases hl : s.lock <;> simp only [hl] at hi <;> omega

/-- data-race freedom at the model level: whenever the data changes, exactly one thread is inside a write section
    and no thread is inside a read section -/
theorem writes_are_exclusive {σ : Type} (d0 : σ) (s s' : St σ) (h : Reach d0 s) (st : Step s s')
    (hchg : s'.data ≠ s.data) : s.w = 1 ∧ s.r = 0 := by
  have hm := mutual_exclusion d0 s h
  cases st with
  | write f hw => constructor <;> omega
  | acqR_free _ => exact absurd rfl hchg
  | acqR_more _ _ => exact absurd rfl hchg
  | acqW _ => exact absurd rfl hchg
  | relR_last _ => exact absurd rfl hchg
  | relR_more _ _ => exact absurd rfl hchg
  | relW _ => exact absurd rfl hchg
  | read _ => exact absurd rfl hchg

/-- a read section sees ONE value of the data (so a function execution reads its cost and the base costs from one
    schedule, and Get/Len/Keys observe one map state): while some thread is inside a read section no step changes the data -/
theorem data_stable_while_reading {σ : Type} (d0 : σ) (s s' : St σ) (h : Reach d0 s) (st : Step s s') (hr : 1 ≤ s.r) :
    s'.data = s.data := by
  by_cases hc : s'.data = s.data
  · exact hc
  · have := writes_are_exclusive d0 s s' h st hc; omega

/-- a write section is atomic: while a writer is inside, nobody else is, so its effect can be placed at any point of
    the section (the linearization point) -/
theorem writer_is_alone {σ : Type} (d0 : σ) (s : St σ) (h : Reach d0 s) (hw : 1 ≤ s.w) : s.w = 1 ∧ s.r = 0 := by
  have := mutual_exclusion d0 s h; omega

/-! ### (1b) explicit threads: one critical section per operation ⟹ linearizable (Proofs/Linearizable.lean) -/

/-- LINEARIZABILITY (any object whose every operation is ONE critical section of a readers-writer lock — the shape
    `discipline_holds` establishes below for `MutexMap` and the priced function objects; any number of threads, any
    interleaving, every reachable state): the accesses in the order they happened are a legal sequential history of the
    specification that yields the current state and exactly the returned outputs; every thread's events read call ·
    access · return in this order, so each access lies between its operation's call and its return (the sequential
    history respects real-time order); and a thread inside a write section is alone inside any section. -/
theorem one_section_objects_linearizable {σ ι ο : Type} (S : Lin.Spec σ ι ο) (d0 : σ) (s : Lin.St σ ι ο)
    (h : Lin.Reach S d0 s) :
    Lin.Legal S d0 (Lin.lins s.evs) s.data ∧ (∀ t, Lin.parse t s.evs .idle = some (s.pcs t).view) ∧ Lin.Excl S s :=
  Lin.linearizable S d0 s h

/-- … for the map beneath the container: Get / Len / Keys (read lock), Insert as test-and-set, Set, Remove (write lock) -/
theorem mutexMap_linearizable {κ ν : Type} [DecidableEq κ] (s : Lin.St (List (κ × ν)) (Lin.MapOp κ ν) (Lin.MapOut κ ν))
    (h : Lin.Reach Lin.mapSpec [] s) : Lin.Legal Lin.mapSpec [] (Lin.lins s.evs) s.data :=
  (Lin.linearizable Lin.mapSpec [] s h).1

/-- … for a priced function object: whatever schedule an execution reads (its own cost AND the base costs, inside one
    read section) is ONE schedule — the initial one or one that some `SetNewGasConfig` installed — never a mixture of two -/
theorem one_schedule {γ : Type} (g0 : γ) (s : Lin.St γ (Lin.CfgOp γ) γ) (h : Lin.Reach (Lin.cfgSpec γ) g0 s) :
    ∀ p ∈ Lin.lins s.evs, p.2 = g0 ∨ ∃ q ∈ Lin.lins s.evs, q.1 = .install p.2 :=
  Lin.legal_cfg_outputs g0 s.data _ (Lin.linearizable (Lin.cfgSpec γ) g0 s h).1

/-- the data of a `MutexMap` / a function object's schedule changes ONLY at the access of an operation that holds the
    WRITE lock (read operations are pure in both specifications) — with `one_section_objects_linearizable` (3): at that
    moment no other thread is inside any section -/
theorem data_changes_only_under_write_lock {κ ν : Type} [DecidableEq κ]
    (s s' : Lin.St (List (κ × ν)) (Lin.MapOp κ ν) (Lin.MapOut κ ν)) (st : Lin.Step Lin.mapSpec s s')
    (hchg : s'.data ≠ s.data) : ∃ t op, s.pcs t = .locked op ∧ Lin.mapSpec.isWrite op = true :=
  Lin.reader_access_keeps_data Lin.mapSpec Lin.mapSpec_reads_pure s s' st hchg

/-- the sequential specification of `Insert` is test-and-set: a second insert of a key is refused and changes nothing
    (kernel-evaluated; the non-atomic variant is what seeded change C19-1 / C19-f13 introduce) -/
example : ((Lin.mapSpec (κ := Nat) (ν := Nat)).apply ((Lin.mapSpec.apply [] (.insert 1 10)).1) (.insert 1 20)).1 = [(1, 10)] := by
  decide

/-! ### (2) the lock discipline `D`, decided on regenerated facts -/

open Facts

inductive Held | none | rd | wr
deriving DecidableEq

structure Scan where
  held : Held := .none
  deferred : Bool := false
  sections : Nat := 0          -- lock acquisitions so far
  unlocked : Bool := false     -- touched a guarded field (or called a method that does) without holding the lock
  wroteUnderRead : Bool := false
  bad : Bool := false          -- unbalanced / unrecognised shape
  touches : Bool := false      -- touches guarded data at all (directly or through callees)

/-- callee summary: (touches guarded data without holding a lock itself, writes guarded data, acquires a lock) -/
structure Summary where
  needsLock : Bool
  writes : Bool
  locks : Bool
  touches : Bool

def scanEv (guarded : List Nat) (callee : Nat → Summary) (s : Scan) : Ev → Scan
  | .lock => if s.held == .none then { s with held := .wr, sections := s.sections + 1 } else { s with bad := true }
  | .rlock => if s.held == .none then { s with held := .rd, sections := s.sections + 1 } else { s with bad := true }
  | .unlock => if s.held == .wr && !s.deferred then { s with held := .none } else { s with bad := true }
  | .runlock => if s.held == .rd && !s.deferred then { s with held := .none } else { s with bad := true }
  | .deferUnlock => if s.held == .wr then { s with deferred := true } else { s with bad := true }
  | .deferRUnlock => if s.held == .rd then { s with deferred := true } else { s with bad := true }
  | .r f => if guarded.contains f then
      { s with touches := true, unlocked := s.unlocked || s.held == .none } else s
  | .w f => if guarded.contains f then
      { s with touches := true, unlocked := s.unlocked || s.held == .none, wroteUnderRead := s.wroteUnderRead || s.held == .rd } else s
  | .call m =>
      let c := callee m
      if c.needsLock then
        { s with touches := true, unlocked := s.unlocked || s.held == .none,
                 wroteUnderRead := s.wroteUnderRead || (c.writes && s.held == .rd),
                 -- a callee that locks by itself while we hold the lock would nest sections
                 bad := s.bad || (c.locks && s.held != .none) }
      else if c.locks then
        -- callee has its own critical section(s): counts as a separate section of this method
        { s with sections := s.sections + 1, touches := s.touches || c.touches, bad := s.bad || s.held != .none }
      else s
  | .ret => if s.held != .none && !s.deferred then { s with bad := true } else s
  | .unknown => { s with bad := true }

def scanMethod (guarded : List Nat) (callee : Nat → Summary) (m : Method) : Scan :=
  let s := m.events.foldl (scanEv guarded callee) {}
  if s.held != .none && !s.deferred then { s with bad := true } else s

def summarize (guarded : List Nat) (callee : Nat → Summary) (m : Method) : Summary :=
  let s := scanMethod guarded callee m
  { needsLock := s.unlocked, writes := m.events.any (fun e => match e with | .w f => guarded.contains f | _ => false),
    locks := s.sections > 0, touches := s.touches }

/-- summaries of all methods of a type, iterated to a fixed point over the intra-type call graph -/
def summaries (t : LockType) : Nat → (Nat → Summary)
  | 0 => fun _ => { needsLock := false, writes := false, locks := false, touches := false }
  | fuel + 1 => fun i =>
      match t.methods[i]? with
      | some m => summarize t.guarded (summaries t fuel) m
      | none => { needsLock := false, writes := false, locks := false, touches := false }

/-- `D` for one method: balanced locks, no write under the read lock, and — for exported (entry) methods, which anyone
    may call without holding anything — every access of guarded data under the lock and ALL of them in ONE critical section -/
def methodOK (t : LockType) (m : Method) : Bool :=
  let s := scanMethod t.guarded (summaries t 4) m   -- intra-type call depth in this code base is ≤ 3
  !s.bad && !s.wroteUnderRead && (!m.entry || (!s.unlocked && (!s.touches || s.sections ≤ 1)))

def typeOK (t : LockType) : Bool := t.methods.all (methodOK t) && !t.guarded.isEmpty

def disciplineOK (ts : List LockType) : Bool := ts.all typeOK

/-- the discipline holds for every mutex-protected type of the current tree (the map, and each priced function object
    with its `SetNewGasConfig` / `ProcessBuiltinFunction` pair and helpers) -/
theorem discipline_holds : disciplineOK Facts.lockTypes = true := by decide +kernel

/-- which types are covered: the map beneath the container and the 15 function objects that copy schedule entries -/
theorem covered_types : Facts.lockTypes.map (·.name) =
    ["MutexMap", "changeOwnerAddress", "claimDeveloperRewards", "esdtBurn", "esdtLocalBurn", "esdtLocalMint",
     "esdtNFTAddQuantity", "esdtNFTAddUri", "esdtNFTBurn", "esdtNFTCreate", "esdtNFTMultiTransfer", "esdtNFTTransfer",
     "esdtNFTupdate", "esdtTransfer", "saveKeyValueStorage", "saveUserName"] := rfl

/-- executions of one function object overlap under its READ lock, and each builds its storage keys by appending the
    token identifier to the object's key-prefix slice: that is free of shared writes exactly when no prefix slice has spare
    capacity (`C13.append_full_writes_nothing_shared` is the slice-level statement). Regenerated on every run from the real
    function objects through the `verif` hook (per-object and package-level prefixes, len and cap). -/
theorem no_shared_key_buffer : Facts.prefixesWithSpareCapacity = [] := rfl

/-! sensitivity of `D` (these are the shapes the discipline must reject) -/

/-- check-then-act in two sections (non-atomic insert) is rejected -/
example : methodOK { name := "M", guarded := [0], methods := [] }
    { name := "Insert", entry := true, events := [.rlock, .r 0, .runlock, .lock, .w 0, .unlock, .ret] } = false := by decide
/-- a guarded read outside the lock is rejected -/
example : methodOK { name := "F", guarded := [0], methods := [] }
    { name := "Process", entry := true, events := [.r 0, .rlock, .deferRUnlock, .ret] } = false := by decide
/-- reading the schedule through two separately locked getters (two sections in one execution) is rejected -/
example : typeOK { name := "F", guarded := [0, 1], methods := [
    { name := "Process", entry := true, events := [.call 1, .call 2, .ret] },
    { name := "getCost", entry := false, events := [.rlock, .r 0, .runlock, .ret] },
    { name := "getBase", entry := false, events := [.rlock, .r 1, .runlock, .ret] }] } = false := by decide
/-- a setter without the lock is rejected -/
example : methodOK { name := "F", guarded := [0], methods := [] }
    { name := "SetNewGasConfig", entry := true, events := [.ret, .w 0] } = false := by decide

end C19
