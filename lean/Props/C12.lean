/-
  Props/C12.lean — C12: transaction-data parsers are total and inverse to the builders.
  Spec-side constants are literals here; the model's definitions are in Model/Parsers.lean.
-/
import Proofs.Parsers
namespace C12
open Esdt

/-- the separator and the alphabet of the builder, as documented: '@' (0x40), lower-case hex -/
def sep : UInt8 := 0x40

/-- FULL (part 1): every parser returns a result or an error for every input and never panics. -/
theorem call_parser_total (data : Bytes) : parseCall data ≠ .panic := parseCall_no_panic data
theorem deploy_parser_total (data : Bytes) : parseDeploy data ≠ .panic := parseDeploy_no_panic data
theorem storage_parser_total (data : Bytes) : parseStorage data ≠ .panic := parseStorage_no_panic data
/-- includes all numeric arguments, in particular the 64-bit wrap-around residues of 3n+c: the count is
    compared with the argument list before any multiplication -/
theorem esdt_parser_total (snd rcv fn : Bytes) (args : List Bytes) (h : args.length < 2 ^ 63) :
    parseESDTTransfers snd rcv fn args ≠ .panic :=
  parseESDTTransfers_no_panic snd rcv fn args (by simpa [two63] using h)

/-- FULL (part 2): for every function name without '@' (and non-empty: an empty name is rejected by the
    tokenizer — covered by `empty_name_rejected`) and every argument list — empty arguments included —
    parsing the string produced by the tx-data builder yields the same function and arguments. -/
theorem parse_build (fn : Bytes) (args : List Bytes) (hne : fn ≠ []) (hat : sep ∉ fn) :
    parseCall (buildCall fn args) = .ok (fn, args) :=
  parseCall_encodeCall fn args hne hat

/-- the built-in functions' own message encoder produces the same string as the builder (in the model they
    are one function; the correspondence check compares both Go encoders with it: ops `build` / `enccall`) -/
theorem parse_encode (fn : Bytes) (args : List Bytes) (hne : fn ≠ []) (hat : sep ∉ fn) :
    parseCall (encodeCall fn args) = .ok (fn, args) :=
  parseCall_encodeCall fn args hne hat

/-- error branch of the guard: an empty function name never parses -/
theorem empty_name_rejected (args : List Bytes) : parseCall (buildCall [] args) = .err .TokenizeFailed := by
  cases args with
  | nil => simp [buildCall, encodeCall, parseCall, tokenize, splitAt]
  | cons a rest => simp [buildCall, encodeCall, parseCall, tokenize, splitAt]

/-- upper-case hex is accepted by the decoder, odd length is rejected -/
theorem hex_upper_accepted : hexDecode (ascii "AbCdEF") = some [0xab, 0xcd, 0xef] := by decide
theorem hex_odd_rejected : ∀ (n : Nat) (s : Bytes), s.length = 2 * n + 1 → hexDecode s = none := by
  intro n
  induction n with
  | zero =>
    intro s h
    match s, h with
    | [_], _ => rfl
  | succ n ih =>
    intro s h
    match s, h with
    | a :: b :: rest, h =>
      have := ih rest (by simp at h; omega)
      simp only [hexDecode, this]
      split <;> rfl

/-- deploy data survives the round trip -/
theorem deploy_roundtrip (d : DeployArgs) (hc : d.code ≠ []) (hv : d.vmType ≠ []) :
    parseDeploy (buildDeploy d) = .ok d := parseDeploy_buildDeploy d hc hv

/-- storage-update lists survive the round trip exactly on the stated domain (non-empty list, non-empty
    first offset) … -/
theorem storage_roundtrip (o d : Bytes) (rest : List (Bytes × Bytes)) (ho : o ≠ []) :
    parseStorage (buildStorage ((o, d) :: rest)) = .ok ((o, d) :: rest) := parseStorage_buildStorage o d rest ho
/-- … and the empty list is rejected rather than mis-parsed -/
theorem storage_empty_rejected : parseStorage (buildStorage []) = .err .TokenizeFailed := parseStorage_buildStorage_nil

-- non-vacuity: a concrete call, with an empty argument, meets the hypotheses and round-trips
example : parseCall (buildCall (ascii "ESDTTransfer") [ascii "TOK-123456", [], [0x0a]]) =
    .ok (ascii "ESDTTransfer", [ascii "TOK-123456", [], [0x0a]]) :=
  parse_build _ _ (by decide +kernel) (by decide +kernel)
-- the wrap-around residue (3n+2 ≡ 4 mod 2^64) is an ordinary, rejected input
example : parseESDTTransfers [1] [1] (ascii "MultiESDTNFTTransfer")
    [[2], [0x55,0x55,0x55,0x55,0x55,0x55,0x55,0x56], [], []] = .err .NotEnoughArguments := by
  simp [parseESDTTransfers, ascii, pArg, bind, PRes.bind, beNat, u64]

end C12
