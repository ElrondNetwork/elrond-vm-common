/-
  Props/C15.lean — C15: the token state is well-formed after every history.
  The representation invariant `Canon` (every token-keyed slot outside the system account holds nothing or the canonical
  encoding of a token with a strictly positive balance — zero only to carry a flag — whose metadata nonce is the key's
  suffix) is preserved by every successful call; over a history this is induction over the call list.
-/
import Proofs.WF
import Proofs.Short
import Proofs.Base
import Proofs.RolesNodup
import Facts.Generated
namespace C15
open Esdt

/-- FULL (key layout): the three key families are built from the constants of constants.go (regenerated) and an NFT
    key is exactly ELRONDesdt ‖ token ‖ big-endian minimal nonce -/
theorem key_layout (tok : Bytes) (n : Nat) :
    Esdt.esdtKeyPrefix = Facts.protectedKeyPrefix ++ Facts.esdtKeyIdentifier ∧
    Esdt.roleKeyPrefix = Facts.protectedKeyPrefix ++ Facts.esdtRoleIdentifier ++ Facts.esdtKeyIdentifier ∧
    Esdt.nonceKeyPrefix = Facts.protectedKeyPrefix ++ Facts.esdtNonceIdentifier ∧
    nftKey (esdtKeyPrefix ++ tok) n = esdtKeyPrefix ++ tok ++ beBytes n ∧ beBytes 0 = [] :=
  ⟨by decide, by decide, by decide, rfl, by simp [beBytes, leBytes]⟩

/-- what the invariant says about an entry: it decodes, its balance is strictly positive or it is a zero-balance
    carrier of a flag, and its metadata nonce is the key's suffix -/
theorem canon_entry_decodes (A : Accts) (hC : Canon A) (a k : Bytes) (hk : TokKey k)
    (ha : a ≠ systemAccountAddress) (hne : A.read a k ≠ []) :
    ∃ t v, decToken (A.read a k) = some t ∧ t.value = some v ∧
      (0 < v ∨ (v = 0 ∧ allZero t.properties = false)) ∧
      ∀ m, t.md = some m → ∃ tok, k = esdtKeyPrefix ++ tok ++ beBytes m.nonce := by
  rcases hC a k hk ha with h | ⟨t, h, hwf⟩
  · exact absurd h hne
  · obtain ⟨v, hv, hpos⟩ := hwf.value
    exact ⟨t, v, h, hv, hpos, hwf.key⟩

/-- FULL (one step of any history, all 23 functions): a successful call on a well-formed state whose stored values are
    shorter than 2^63 bytes, with arguments shorter than 2^63 bytes (Go slices cannot be longer), leaves such a state
    (`short_step`: every value a function stores is a marshalled entry, a flag pair, a counter, an empty value or one of
    the call's own arguments).  Entries re-read inside one call (same-shard self-transfers, repeated items of a multi
    transfer) are covered: the intermediate states are short as well, so what was just written reads back. -/
theorem wf_step (f : FnId) (env : Env) (c : Call) (ctx ctx' : Ctx) (out : VMOutput)
    (hC : Canon ctx.accts) (hS0 : Short ctx.accts) (ha : ArgsShort c)
    (hreach : c.caller = c.rcv → present env.nshards env.self c.caller = true)
    (h : exec env f c ctx = .ok (out, ctx')) : Canon ctx'.accts ∧ Short ctx'.accts :=
  canon_short_step f env c ctx ctx' out hC hS0 ha h

/-- the empty state is well-formed -/
theorem wf_init : Canon [] := fun _ _ _ _ => Or.inl rfl

/-- histories of built-in calls (all 23 functions) -/
structure Step where
  f : FnId
  env : Env
  c : Call

/-- transaction reachability (sender-side paths run on the sender's shard) and arguments that are Go slices -/
def StepOK (s : Step) : Prop :=
  (s.c.caller = s.c.rcv → present s.env.nshards s.env.self s.c.caller = true) ∧ ArgsShort s.c

/-- state after running the steps in order, failed calls rolled back (Appendix C) -/
def run : List Step → Accts → Accts
  | [], A => A
  | s :: rest, A =>
    match exec s.env s.f s.c { accts := A } with
    | .ok (_, ctx') => run rest ctx'.accts
    | _ => run rest A

/-- FULL (history level, all 23 functions): every reachable state is well-formed (and keeps its stored values shorter
    than 2^63 bytes) — hypotheses on the initial state and on the calls only -/
theorem wf_history (steps : List Step) (hok : ∀ s ∈ steps, StepOK s) :
    ∀ A, Canon A → Short A → Canon (run steps A) ∧ Short (run steps A) := by
  induction steps with
  | nil => intro A h hs; exact ⟨h, hs⟩
  | cons s rest ih =>
    intro A h hs
    have ih' := ih (fun s' hs' => hok s' (by simp [hs']))
    obtain ⟨h3, h4⟩ := hok s (by simp)
    unfold run
    split
    · rename_i out ctx' he
      obtain ⟨hc', hs'⟩ := wf_step s.f s.env s.c { accts := A } ctx' out h hs h4 h3 he
      exact ih' _ hc' hs'
    · exact ih' _ h hs

/-- FULL (all 23 functions, any interleaving): every successful call keeps one record per address (`Accts.Nodup`,
    which is what makes the per-key sums `balAt` of C01/C02 well defined), well-formedness and short values — three of
    the four parts of the world invariant `SInv` of the history theorems of C01/C02/C04/C07/C08, so that foreign calls of
    ANY function between the steps of those histories cannot break them (the fourth, `MdPos`, is per-world: a forged
    destination-form payload may carry metadata with nonce 0) -/
theorem base_invariant_step (f : FnId) (env : Env) (c : Call) (ctx ctx' : Ctx) (out : VMOutput)
    (hN : ctx.accts.Nodup) (hC : Canon ctx.accts) (hS0 : Short ctx.accts) (ha : ArgsShort c)
    (hreach : c.caller = c.rcv → present env.nshards env.self c.caller = true)
    (h : exec env f c ctx = .ok (out, ctx')) : ctx'.accts.Nodup ∧ Canon ctx'.accts ∧ Short ctx'.accts :=
  ⟨nodup_step f env c ctx ctx' out hN h, wf_step f env c ctx ctx' out hC hS0 ha hreach h⟩

/-- FULL (history level): the same over every history of calls of all 23 functions -/
theorem base_invariant_history (steps : List Step) (hok : ∀ s ∈ steps, StepOK s) :
    ∀ A, A.Nodup → Canon A → Short A → (run steps A).Nodup ∧ Canon (run steps A) ∧ Short (run steps A) := by
  induction steps with
  | nil => intro A hn h hs; exact ⟨hn, h, hs⟩
  | cons s rest ih =>
    intro A hn h hs
    have ih' := ih (fun s' hs' => hok s' (by simp [hs']))
    obtain ⟨h3, h4⟩ := hok s (by simp)
    unfold run
    split
    · rename_i out ctx' he
      obtain ⟨hn', hc', hs'⟩ := base_invariant_step s.f s.env s.c { accts := A } ctx' out hn h hs h4 h3 he
      exact ih' _ hn' hc' hs'
    · exact ih' _ hn h hs

/-- any invariant closed under replacing one account's record survives every history (the model changes the account
    table in no other way) -/
theorem set_closed_history (I : Accts → Prop) (hI : SetClosed I) (steps : List Step) :
    ∀ A, I A → I (run steps A) := by
  induction steps with
  | nil => intro A h; exact h
  | cons s rest ih =>
    intro A h
    unfold run
    split
    · rename_i out ctx' he
      exact ih _ (setClosed_step hI s.f s.env s.c { accts := A } ctx' out h he)
    · exact ih _ h

/-! non-vacuity: a state with one protocol-written entry is well-formed and short; a mint on it succeeds -/
def sampleEnv : Env := { self := 0, nshards := 1, payable := fun _ => .yes, dns := [], nameChange := false, gas := {}, active := true }
def alice : Bytes := List.replicate 32 1
def tk : Bytes := [84, 79, 75]
def five : Token := { type := 0, value := some 5 }
def w0 : Accts := Accts.write [] alice (esdtKeyPrefix ++ tk) (encToken five)
example : Canon w0 := by
  intro a k _ _
  unfold w0
  rw [Accts.read_write]
  split
  · exact Or.inr ⟨five, by decide +kernel, ⟨5, rfl, Or.inl (by decide)⟩, fun m hm => by simp [five] at hm⟩
  · exact Or.inl rfl
example : Short w0 := by
  intro a k
  unfold w0
  rw [Accts.read_write]
  split
  · show (encToken five).length < two63
    decide +kernel
  · show ([] : Bytes).length < two63
    decide

/-! ### "role lists hold no duplicates under system-contract discipline" (Proofs/RolesNodup.lean) -/

/-- FULL (one call): every call of every one of the 23 functions — any caller, any arguments — keeps every stored role list
    free of duplicates; the only premise beyond the invariant itself is the system contract's discipline for ESDTSetRole
    (App. C E5: what it sets is new for the account and listed once). ESDTUnSetRole erases; the hand-over erases the create
    role at the old holder and appends it at the new one only when it is absent; no other function writes a role key
    (`C03.roles_change_only_through`). -/
theorem roles_have_no_duplicates_step (f : FnId) (env : Env) (c : Call) (A : Accts) (out : VMOutput) (ctx' : Ctx)
    (hI : RolesNodup A) (hd : SetRoleDisciplined f c A) (h : exec env f c { accts := A } = .ok (out, ctx')) :
    RolesNodup ctx'.accts :=
  roles_nodup_step f env c A out ctx' hI hd h

/-- FULL (histories): along ANY list of calls (failed calls rolled back) whose ESDTSetRole calls keep that discipline, no
    role list of any account ever holds a duplicate -/
theorem roles_have_no_duplicates_history (env : Env) (calls : List (FnId × Call)) (A : Accts) (hI : RolesNodup A)
    (hd : CallsDisciplined env calls A) : RolesNodup (runCalls env calls A) :=
  roles_nodup_history env calls A hI hd

/-- the discipline is necessary: ESDTSetRole appends without looking — setting a held role again stores it twice
    (kernel-evaluated; cf. the duplicated create role of Props/C07) -/
def rnEnv : Env := { self := 0, nshards := 1, payable := fun _ => .yes, dns := [], nameChange := false, gas := {}, active := true }
def rnSet : Call := { fn := fnSetESDTRole, caller := esdtSCAddress, rcv := alice, args := [tk, roleLocalMint] }
example : RolesNodup [] := fun a t roles h => by
  have h' : rolesOf (Accts.read [] a (roleKeyPrefix ++ t)) = some [] := rfl
  rw [h'] at h; cases h; exact List.nodup_nil
example : (rolesOf ((runCalls rnEnv [(.setRole, rnSet)] []).read alice (roleKeyPrefix ++ tk)) == some [roleLocalMint] &&
    rolesOf ((runCalls rnEnv [(.setRole, rnSet), (.setRole, rnSet)] []).read alice (roleKeyPrefix ++ tk)) ==
      some [roleLocalMint, roleLocalMint]) = true := by decide +kernel

-- Not part of the Lean invariant (decided by the well-formedness oracle after every op of every generated history):
-- counter ≥ every issued nonce (C07's world theorem `nonces_unique_across_handovers` carries it in its invariant),
-- fungible entries without metadata (token-identifier discipline).

end C15
