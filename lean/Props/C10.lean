/-
  Props/C10.lean — C10: cross-shard messages and the transfer parser agree with the ledger.
-/
import Proofs.Emit
import Proofs.Parsers
import Proofs.Metadata
import Props.C08
import Proofs.ParserMulti
import Proofs.Accept
import Proofs.Accept2
import Proofs.Accept3
import Facts.Generated
namespace C10
open Esdt

/-- FULL (part 1a): every data string a built-in function emits in an output transfer is empty or the one
    encoder's output `fn@hex(arg)@…` for a protocol function name or the attached name given in the arguments -/
theorem emitted_data_form (f : FnId) (env : Env) (c : Call) (ctx ctx' : Ctx) (out : VMOutput)
    (h : exec env f c ctx = .ok (out, ctx')) : EmittedOK c out := by
  unfold exec at h
  cases f <;> simp only [runFn] at h
  · exact (emit_claimDeveloperRewards env c ctx).elim h
  · exact EmittedOK.of_noOutput _ _ ((noout_changeOwnerAddress env c ctx).elim h)
  · exact (emit_setUserName env c ctx).elim h
  · exact EmittedOK.of_noOutput _ _ ((noout_saveKeyValue env c ctx).elim h)
  · exact EmittedOK.of_noOutput _ _ ((noout_esdtPause true env c ctx).elim h)
  · exact EmittedOK.of_noOutput _ _ ((noout_esdtPause false env c ctx).elim h)
  · exact (emit_esdtTransfer env c ctx).elim h
  · exact (emit_esdtBurn env c ctx).elim h
  · exact EmittedOK.of_noOutput _ _ ((noout_esdtFreezeWipe .freeze env c ctx).elim h)
  · exact EmittedOK.of_noOutput _ _ ((noout_esdtFreezeWipe .unfreeze env c ctx).elim h)
  · exact EmittedOK.of_noOutput _ _ ((noout_esdtFreezeWipe .wipe env c ctx).elim h)
  · exact EmittedOK.of_noOutput _ _ ((noout_esdtRoles false env c ctx).elim h)
  · exact EmittedOK.of_noOutput _ _ ((noout_esdtRoles true env c ctx).elim h)
  · exact EmittedOK.of_noOutput _ _ ((noout_esdtLocalBurn env c ctx).elim h)
  · exact EmittedOK.of_noOutput _ _ ((noout_esdtLocalMint env c ctx).elim h)
  · exact EmittedOK.of_noOutput _ _ ((noout_esdtNFTAddQuantity env c ctx).elim h)
  · exact EmittedOK.of_noOutput _ _ ((noout_esdtNFTBurn env c ctx).elim h)
  · exact EmittedOK.of_noOutput _ _ ((noout_esdtNFTCreate env c ctx).elim h)
  · exact (emit_esdtNFTTransfer env c ctx).elim h
  · exact (emit_esdtNFTCreateRoleTransfer env c ctx).elim h
  · exact EmittedOK.of_noOutput _ _ ((noout_esdtNFTUpdateAttributes env c ctx).elim h)
  · exact EmittedOK.of_noOutput _ _ ((noout_esdtNFTAddURI env c ctx).elim h)
  · exact (emit_multiTransfer env c ctx).elim h

/-- names the call-arguments parser can give back: non-empty, without the separator (C12's domain) -/
def GoodName (fn : Bytes) : Prop := fn ≠ [] ∧ at' ∉ fn

/-- the protocol's own names are good names (spec literals, checked against the regenerated constants) -/
theorem protocol_names_good : ∀ n ∈ protoNames, GoodName n := by
  unfold GoodName
  decide +kernel
theorem protocol_names_as_in_code :
    protoNames = [Facts.fnESDTTransfer, Facts.fnESDTBurn, Facts.fnESDTNFTTransfer, Facts.fnMultiESDTNFTTransfer,
                  Facts.fnESDTNFTCreateRoleTransfer, Facts.fnSetUserName] := by decide +kernel

/-- FULL (part 1b): every non-empty emitted data string parses with the call-arguments parser into exactly the
    function name and the arguments that were encoded (attached names: under C12's carve-out `GoodName`) -/
theorem emitted_parses (f : FnId) (env : Env) (c : Call) (ctx ctx' : Ctx) (out : VMOutput)
    (h : exec env f c ctx = .ok (out, ctx'))
    (oa : OutAcct) (hoa : oa ∈ out.outAccts) (tr : OutTransfer) (htr : tr ∈ oa.transfers) (hne : tr.data ≠ []) :
    ∃ fn args, tr.data = encodeCall fn args ∧ (GoodName fn → parseCall tr.data = .ok (fn, args)) ∧
      (fn ∈ protoNames ∨ fn ∈ c.args) := by
  rcases emitted_data_form f env c ctx ctx' out h oa hoa tr htr with he | ⟨fn, args, he, hfn⟩
  · exact absurd he hne
  · exact ⟨fn, args, he, fun hg => he ▸ parseCall_encodeCall fn args hg.1 hg.2, hfn⟩

/-- protocol continuations always parse -/
theorem continuation_parses (fn : Bytes) (args : List Bytes) (h : fn ∈ protoNames) :
    parseCall (encodeCall fn args) = .ok (fn, args) :=
  parseCall_encodeCall fn args (protocol_names_good fn h).1 (protocol_names_good fn h).2

/-- argument index conventions shared by parser and functions (regenerated from both packages) -/
theorem index_conventions :
    Facts.parserMinArgsESDTTransfer = Facts.minLenArgumentsESDTTransfer ∧
    Facts.parserMinArgsESDTNFTTransfer = Facts.minLenArgumentsESDTNFTTransfer ∧
    Facts.parserMinArgsMulti = 4 ∧ Facts.parserArgsPerTransfer = 3 ∧
    Facts.minLenArgumentsESDTTransfer = 2 ∧ Facts.minLenArgumentsESDTNFTTransfer = 4 := by decide

/-- the parser's report for a single fungible transfer: receiver, token = args[0], value = args[1] (big-endian),
    attached call = args[2] with arguments args[3:] — exactly the positions `esdtTransfer` reads -/
theorem parser_single_positions (snd rcv tok val : Bytes) (rest : List Bytes) :
    parseESDTTransfers snd rcv (ascii "ESDTTransfer") (tok :: val :: rest) =
      .ok { transfers := [{ value := beNat val, token := tok, type := 0, nonce := 0 }], rcv := rcv,
            callFn := rest.headD [], callArgs := rest.drop 1 } := by
  cases rest <;> simp [parseESDTTransfers, pArg, bind, PRes.bind, pure]

/-- sender-form NFT transfer: the receiver reported is the destination argument -/
theorem parser_nft_sender_positions (snd tok nonce qty dst : Bytes) (rest : List Bytes) :
    parseESDTTransfers snd snd (ascii "ESDTNFTTransfer") (tok :: nonce :: qty :: dst :: rest) =
      .ok { transfers := [{ value := beNat qty, token := tok, type := 1, nonce := u64 (beNat nonce) }], rcv := dst,
            callFn := rest.headD [], callArgs := rest.drop 1 } := by
  cases rest <;> simp [parseESDTTransfers, pArg, bind, PRes.bind, pure, ascii]

/-! ### the parser's report is what the ledger moves -/

theorem args_cons2 {args : List Bytes} {a b : Bytes} (h0 : args[0]? = some a) (h1 : args[1]? = some b) :
    ∃ rest, args = a :: b :: rest := by
  match args, h0, h1 with
  | x :: y :: rest, h0, h1 => simp at h0 h1; subst h0; subst h1; exact ⟨rest, rfl⟩
  | [_], _, h1 => simp at h1
  | [], h0, _ => simp at h0

/-- FULL (ESDTTransfer, sender side): what the parser reports for the transaction — token, amount — is exactly what
    the function debits from the sender -/
theorem parser_matches_debit (env : Env) (c : Call) (ctx ctx' : Ctx) (out : VMOutput)
    (hs : present env.nshards env.self c.caller = true) (hd : present env.nshards env.self c.rcv = false)
    (h : esdtTransfer env c ctx = .ok (out, ctx')) :
    ∃ tok amt rest t v, c.args = tok :: amt :: rest ∧
      parseESDTTransfers c.caller c.rcv (ascii "ESDTTransfer") c.args =
        .ok { transfers := [{ value := beNat amt, token := tok, type := 0, nonce := 0 }], rcv := c.rcv,
              callFn := rest.headD [], callArgs := rest.drop 1 } ∧
      OneWrite ctx.accts ctx'.accts c.caller (esdtKeyPrefix ++ tok) t v (- (beNat amt : Int)) := by
  obtain ⟨tok, amt, t, v, h0, h1, _, hw, _⟩ := (esdtTransfer_senderOnly_effect env c ctx hs hd).elim h
  obtain ⟨rest, hargs⟩ := args_cons2 h0 h1
  exact ⟨tok, amt, rest, t, v, hargs, by rw [hargs]; exact parser_single_positions _ _ _ _ _, hw⟩

/-- FULL (ESDTTransfer, destination side — delivery or refund): … is exactly what the function credits -/
theorem parser_matches_credit (env : Env) (c : Call) (ctx ctx' : Ctx) (out : VMOutput)
    (hs : present env.nshards env.self c.caller = false) (hd : present env.nshards env.self c.rcv = true)
    (h : esdtTransfer env c ctx = .ok (out, ctx')) :
    ∃ tok amt rest t v, c.args = tok :: amt :: rest ∧
      parseESDTTransfers c.caller c.rcv (ascii "ESDTTransfer") c.args =
        .ok { transfers := [{ value := beNat amt, token := tok, type := 0, nonce := 0 }], rcv := c.rcv,
              callFn := rest.headD [], callArgs := rest.drop 1 } ∧
      OneWrite ctx.accts ctx'.accts c.rcv (esdtKeyPrefix ++ tok) t v (beNat amt) := by
  obtain ⟨tok, amt, t, v, h0, h1, _, hw, _⟩ := (esdtTransfer_destOnly_effect env c ctx hs hd).elim h
  obtain ⟨rest, hargs⟩ := args_cons2 h0 h1
  exact ⟨tok, amt, rest, t, v, hargs, by rw [hargs]; exact parser_single_positions _ _ _ _ _, hw⟩

/-- FULL (ESDTNFTTransfer, sender side, cross-shard): token, nonce and quantity reported by the parser are the ones of
    the entry the function debits, and the receiver it reports is the destination argument -/
theorem parser_matches_nft_debit (env : Env) (c : Call) (ctx ctx' : Ctx) (out : VMOutput)
    (hs : present env.nshards env.self c.caller = true)
    (hx : ∀ d, c.args[3]? = some d → env.self ≠ shardOf env.nshards d)
    (h : esdtNFTTransferSender env c ctx = .ok (out, ctx')) :
    ∃ tok nb qb dst rest t v, c.args = tok :: nb :: qb :: dst :: rest ∧
      parseESDTTransfers c.caller c.caller (ascii "ESDTNFTTransfer") c.args =
        .ok { transfers := [{ value := beNat qb, token := tok, type := 1, nonce := u64 (beNat nb) }], rcv := dst,
              callFn := rest.headD [], callArgs := rest.drop 1 } ∧
      NftWrite ctx.accts ctx'.accts c.caller (esdtKeyPrefix ++ tok) (u64 (beNat nb)) t v (v - beNat qb) := by
  obtain ⟨tok, nb, qb, dst, t, v, h0, h1, h2, h3, _, _, hw, _⟩ :=
    (nftTransferSender_crossShard_effect env c ctx hs hx).elim h
  have hargs : ∃ rest, c.args = tok :: nb :: qb :: dst :: rest := by
    match hc : c.args, h0, h1, h2, h3 with
    | a :: b :: d :: e :: rest, h0, h1, h2, h3 =>
      simp at h0 h1 h2 h3; subst h0; subst h1; subst h2; subst h3; exact ⟨rest, rfl⟩
    | [_, _, _], _, _, _, h3 => simp at h3
    | [_, _], _, _, h2, _ => simp at h2
    | [_], _, h1, _, _ => simp at h1
    | [], h0, _, _, _ => simp at h0
  obtain ⟨rest, hargs⟩ := hargs
  exact ⟨tok, nb, qb, dst, rest, t, v, hargs, by rw [hargs]; exact parser_nft_sender_positions _ _ _ _ _ _, hw⟩

/-- FULL (ESDTNFTTransfer, delivery): the quantity the parser reports for the delivered message (its 3rd argument) is the
    quantity the destination is credited with (the `Value` of the payload the sender side built): the destination entry
    becomes the sender's entry with `Value := that quantity + existing` (C08.cross_shard_hop) -/
theorem parser_matches_nft_delivery (envS envD : Env) (cS cD : Call) (ctxS ctxS' ctxD ctxD' : Ctx) (outS outD : VMOutput)
    (hself : cS.caller = cS.rcv) (hpres : present envS.nshards envS.self cS.caller = true)
    (hx : ∀ d, cS.args[3]? = some d → envS.self ≠ shardOf envS.nshards d)
    (hS : esdtNFTTransfer envS cS ctxS = .ok (outS, ctxS'))
    (hne : cD.caller ≠ cD.rcv)
    (hdeliver : ∀ dst tr, outS.outAccts = [{ addr := dst, transfers := [tr] }] →
      cD.rcv = dst ∧ parseCall tr.data = .ok (cD.fn, cD.args))
    (hD : esdtNFTTransfer envD cD ctxD = .ok (outD, ctxD'))
    (hok : ∀ t q, decToken (ctxS.accts.read cS.caller
        (nftKey (esdtKeyPrefix ++ (cS.args[0]?).getD []) (u64 (beNat ((cS.args[1]?).getD []))))) = some t →
        TokenOK { t with value := some q }) :
    ∃ tok nb qb t cv, cS.args[0]? = some tok ∧ cS.args[1]? = some nb ∧ cS.args[2]? = some qb ∧
      decToken (ctxS.accts.read cS.caller (nftKey (esdtKeyPrefix ++ tok) (u64 (beNat nb)))) = some t ∧
      ctxD'.accts.read cD.rcv (nftKey (esdtKeyPrefix ++ tok) (mdNonce t)) =
        nftStoredForm { t with value := some ((beNat qb : Int) + cv) } :=
  C08.cross_shard_hop envS envD cS cD ctxS ctxS' ctxD ctxD' outS outD hself hpres hx hS hne hdeliver hD hok

/-- FULL (MultiESDTNFTTransfer, what the destination contract is told = what the ledger moved): a successful sender-side
    multi transfer towards another shard, on a well-formed shard state (`SInv`), emits ONE output transfer whose data
      * parses with the call-arguments parser into the function's own name and the argument list
        `count :: payload ++ attached call`,
      * is accepted by the ESDT-transfer parser as seen on the destination shard (sender ≠ receiver), with receiver = the
        destination and ONE REPORT PER TRANSFERRED TOKEN, in order (`reportOf`: identifier, the nonce of the entry's own
        metadata — 0 for a fungible token —, and the transferred quantity, type by kind),
      * and for EVERY storage key the quantities the parser reports for that key add up to exactly what the sender's
        shard lost under that key (`parsedContrib … + balance after = balance before`) — repeated items, mixed kinds and
        aliasing identifiers included.
    With C01.multi_conservation_history (the same message, read by the destination loop, credits exactly that) a contract
    is never told it received more or other tokens than the ledger moved. -/
theorem parser_matches_multi_message (env : Env) (c : Call) (ctx ctx' : Ctx) (out : VMOutput) (hI : SInv ctx.accts)
    (hpres : present env.nshards env.self c.caller = true)
    (hdsys : ∀ d, c.args[0]? = some d → d ≠ systemAccountAddress)
    (hphys : c.args.length < 2 ^ 63)
    (h : multiTransferSender env c ctx = .ok (out, ctx'))
    (dst : Bytes) (h0 : c.args[0]? = some dst) (hx : env.self ≠ shardOf env.nshards dst) :
    ∃ tr args p, out.outAccts = [{ addr := dst, transfers := [tr] }] ∧
      parseCall tr.data = .ok (fnMultiESDTNFTTransfer, args) ∧
      parseESDTTransfers c.caller dst fnMultiESDTNFTTransfer args = .ok p ∧ p.rcv = dst ∧
      ∀ k, balAt ctx'.accts k + parsedContrib p.transfers k = balAt ctx.accts k := by
  obtain ⟨hne, toks, rest, tr, a1, h1, hlen, hn0, hn3, hout, hdata, hok, hlens, hb⟩ :=
    (multiTransferSender_message env c ctx hI hpres hdsys).elim h dst h0 hx
  have hlt : 3 * toks.length + 1 < two64 := by
    rw [hlen]; unfold two64; omega
  obtain ⟨p, hp, htr, hrcv⟩ := parse_emitted_multi c.caller dst toks rest (fun e => hne e.symm) (by rw [hlen]; exact hn0)
    hlt hok hlens
  refine ⟨tr, _, p, hout, by rw [hdata, continuation_parses _ _ (by simp [protoNames])], hp, hrcv, fun k => ?_⟩
  rw [htr, parsedContrib_reports]
  exact hb k

/-- non-vacuity: the multi transfer of C01's example (2 of an SFT, 5 of a fungible token, 1 more of the SFT) — the emitted
    data, parsed by the two parsers, reports exactly these three items -/
example : (match multiTransferSender C01.nvEnv C01.nvMXfer { accts := C01.nvMA0 } with
    | .ok (out, _) =>
      (match out.outAccts with
       | [oa] =>
         (match oa.transfers with
          | [tr] =>
            (match parseCall tr.data with
             | .ok (_, args) =>
               (match parseESDTTransfers C01.nvAlice C01.nvBob fnMultiESDTNFTTransfer args with
                | .ok p => p.transfers.map (fun t => (t.token, t.nonce, t.value))
                | _ => [])
             | _ => [])
          | _ => [])
       | _ => [])
    | _ => []) = [(C01.nvNFT, 1, 2), (C01.nvFT, 0, 5), (C01.nvNFT, 1, 1)] := by decide +kernel

/-- FULL for the create-role hand-over ("when it continues a built-in operation on another shard, that shard's built-in
    function of the same name accepts it"): the message a successful current-holder step emits towards another shard —
    token and the OLD counter, an EMPTY argument when nothing was created yet — delivered on the next holder's shard with
    the previous holder as caller, SUCCEEDS, whatever the destination account holds: total correctness, not "if it
    succeeds".  The only premises are that the destination's role list for the token decodes and, extended by one role,
    still fits a Go slice (both hold on every state the functions themselves wrote: C14 / the marshal guard), and that no
    dependency fault is injected. -/
theorem handover_continuation_accepted (envS envD : Env) (cS : Call) (ctxS ctxS' ctxD : Ctx) (outS : VMOutput)
    (hsys : cS.caller = esdtSCAddress)
    (hS : esdtNFTCreateRoleTransfer envS cS ctxS = .ok (outS, ctxS'))
    (tok dest : Bytes) (hargs : cS.args = [tok, dest])
    (hprev : cS.rcv ≠ esdtSCAddress)
    (hsnd : present envD.nshards envD.self cS.rcv = false) (hdst : present envD.nshards envD.self dest = true)
    (hnf : ctxD.failAt = none) (roles : List Bytes)
    (hroles : rolesOf (ctxD.accts.read dest (roleKeyPrefix ++ tok)) = some roles)
    (hlen : (encRoles (roles ++ [roleNFTCreate])).length < two63) :
    ∃ tr nb, outS.outAccts = [{ addr := dest, balance := some 0, delta := some 0, transfers := [tr] }] ∧
      parseCall tr.data = .ok (fnESDTNFTCreateRoleTransfer, [tok, nb]) ∧
      ∃ outD ctxD', esdtNFTCreateRoleTransfer envD
        { fn := fnESDTNFTCreateRoleTransfer, caller := cS.rcv, rcv := dest, args := [tok, nb] } ctxD = .ok (outD, ctxD') ∧
        outD.rc = 0 := by
  obtain ⟨tok1, dest1, _, hargs1, _, _, _, tr, hout, hdata⟩ := (handover_current_x envS cS ctxS hsys).elim hS
  rw [hargs] at hargs1
  injection hargs1 with e1 e2
  injection e2 with e2 _
  subst e1; subst e2
  refine ⟨tr, _, hout, by rw [hdata, continuation_parses _ _ (by simp [protoNames])], ?_⟩
  exact handover_delivery_accepted envD _ ctxD tok _ hnf rfl rfl hprev hsnd hdst roles hroles hlen

/-- FULL (ESDTTransfer; "… and the other shard's function of the same name accepts the continuation", with the
    property's own exceptions): a cross-shard ESDTTransfer that succeeded on the sender's shard — the user's
    transaction itself, or the message a contract's call emitted: in both cases caller, receiver and ARGUMENTS of the
    sender-side call (`emitted_data_form`, `delivery_carries_debited_amount`) — when executed on the destination's shard
    SUCCEEDS and credits exactly the debited amount, provided the destination's entry is a well-formed fungible entry
    (C15), the gate passes (entry not frozen, token not paused) and, where payability has to be verified, the oracle says
    yes.  Total correctness: not "if it succeeds".  The converse — frozen / paused / not payable DO refuse — is
    C04.gate_blocks and C09.esdtTransfer_credit_admissible; a refused delivery is refunded, and the refund never refused
    (C01.refund_never_rejected).  Any call type, any gas, with or without an attached call. -/
theorem esdtTransfer_continuation_accepted (envS envD : Env) (cS cD : Call) (ctxS ctxS' ctxD : Ctx) (outS : VMOutput)
    (hs : present envS.nshards envS.self cS.caller = true) (hd : present envS.nshards envS.self cS.rcv = false)
    (hS : esdtTransfer envS cS ctxS = .ok (outS, ctxS'))
    (hcaller : cD.caller = cS.caller) (hrcv : cD.rcv = cS.rcv) (hargs : cD.args = cS.args) (hval : cD.callValue = 0)
    (hnet : envD.nshards = envS.nshards)
    (hsndD : present envD.nshards envD.self cD.caller = false) (hdstD : present envD.nshards envD.self cD.rcv = true)
    (hnf : ctxD.failAt = none)
    (t : Token) (v : Int)
    (ht : ∀ tok, cS.args[0]? = some tok → tokenOf (ctxD.accts.read cD.rcv (esdtKeyPrefix ++ tok)) = some t ∧
      GatePasses ctxD.accts cD.rcv (esdtKeyPrefix ++ tok) t cD.rae)
    (hty : t.type = 0) (hv : t.value = some v) (hv0 : 0 ≤ v)
    (hpay : mustVerifyPayable cD 2 = true → envD.payable cD.rcv = .yes)
    (hlen : ∀ q : Int, (encToken { t with value := some q }).length < two63) :
    ∃ tok amt outD ctxD', cS.args[0]? = some tok ∧ cS.args[1]? = some amt ∧
      esdtTransfer envD cD ctxD = .ok (outD, ctxD') ∧ outD.rc = 0 ∧
      ctxD'.accts = ctxD.accts.write cD.rcv (esdtKeyPrefix ++ tok)
        (storedForm { t with value := some (v + (beNat amt : Int)) }) := by
  obtain ⟨tok, amt, _, _, h0, h1, hz, _, _⟩ := C01.esdtTransfer_sender_exact envS cS ctxS ctxS' outS hs hd hS
  have hmeta : shardOf envD.nshards cD.rcv ≠ metaShard := by
    rw [hnet, hrcv]; exact (esdtTransfer_not_to_metachain envS cS ctxS).elim hS
  obtain ⟨rest, hshape⟩ := args_cons2 h0 h1
  obtain ⟨htok, hgate⟩ := ht tok h0
  obtain ⟨outD, ctxD', hD, hrc, hw⟩ := esdtTransfer_delivery_accepted envD cD ctxD tok amt rest (by rw [hargs, hshape]) hz hval
    hsndD hdstD hmeta hnf t v htok hty hv hv0 hgate hpay (hlen _)
  exact ⟨tok, amt, outD, ctxD', h0, h1, hD, hrc, hw⟩

/-- FULL (ESDTNFTTransfer; same clause): the message a successful cross-shard sender-side ESDTNFTTransfer emitted —
    parsed back from its data with the call parser — when executed on the destination's shard SUCCEEDS and stores the
    SENDER's entry with `Value := carried + held`, provided the destination's slot under that (token, nonce) is empty or
    decodes (C15), the gates pass for what the destination holds and for the arriving entry (not frozen, not paused),
    payability is confirmed where it has to be verified, and the destination does not hold the same nonce with ANOTHER
    hash (the property's list of legitimate refusals, nothing else).  `t` is the sender's entry before the call; sizes
    within Go's limits (`TokenOK`, as for every codec round trip). -/
theorem nftTransfer_continuation_accepted (envS envD : Env) (cS cD : Call) (ctxS ctxS' ctxD : Ctx) (outS : VMOutput)
    (hself : cS.caller = cS.rcv) (hpres : present envS.nshards envS.self cS.caller = true)
    (hx : ∀ d, cS.args[3]? = some d → envS.self ≠ shardOf envS.nshards d)
    (hS : esdtNFTTransfer envS cS ctxS = .ok (outS, ctxS'))
    (hne : cD.caller ≠ cD.rcv) (hval : cD.callValue = 0)
    (hdeliver : ∀ dst tr, outS.outAccts = [{ addr := dst, transfers := [tr] }] →
      cD.rcv = dst ∧ parseCall tr.data = .ok (cD.fn, cD.args))
    (hsndD : present envD.nshards envD.self cD.caller = false) (hdstD : present envD.nshards envD.self cD.rcv = true)
    (hnf : ctxD.failAt = none)
    (hok : ∀ t q, decToken (ctxS.accts.read cS.caller
        (nftKey (esdtKeyPrefix ++ (cS.args[0]?).getD []) (u64 (beNat ((cS.args[1]?).getD []))))) = some t →
        TokenOK { t with value := some q })
    (hpay : mustVerifyPayable cD 4 = true → envD.payable cD.rcv = .yes)
    (cur : Token) (cv : Int) (hcv : cur.value = some cv)
    (hdest : ∀ tok nb qb t m, cS.args[0]? = some tok → cS.args[1]? = some nb → cS.args[2]? = some qb →
      decToken (ctxS.accts.read cS.caller (nftKey (esdtKeyPrefix ++ tok) (u64 (beNat nb)))) = some t → t.md = some m →
      tokenOf (ctxD.accts.read cD.rcv (nftKey (esdtKeyPrefix ++ tok) m.nonce)) = some cur ∧
      (∀ cm, cur.md = some cm → cm.hash = m.hash) ∧
      GatePasses ctxD.accts cD.rcv (esdtKeyPrefix ++ tok) cur cD.rae ∧
      GatePasses ctxD.accts cD.rcv (esdtKeyPrefix ++ tok) t cD.rae ∧
      GatePasses ctxD.accts cD.rcv (nftKey (esdtKeyPrefix ++ tok) m.nonce) t cD.rae ∧
      0 < (beNat qb : Int) + cv ∧
      (encToken { t with value := some ((beNat qb : Int) + cv) }).length < two63) :
    ∃ tok nb qb t m outD ctxD', cS.args[0]? = some tok ∧ cS.args[1]? = some nb ∧ cS.args[2]? = some qb ∧
      decToken (ctxS.accts.read cS.caller (nftKey (esdtKeyPrefix ++ tok) (u64 (beNat nb)))) = some t ∧ t.md = some m ∧
      esdtNFTTransfer envD cD ctxD = .ok (outD, ctxD') ∧ outD.rc = 0 ∧
      ctxD'.accts = ctxD.accts.write cD.rcv (nftKey (esdtKeyPrefix ++ tok) m.nonce)
        (encToken { t with value := some ((beNat qb : Int) + cv) }) := by
  have hS' : esdtNFTTransferSender envS cS ctxS = .ok (outS, ctxS') :=
    (nftTransfer_sender_path envS cS ctxS hself).elim hS
  obtain ⟨tok, nb, qb, dst, t, v, h0, h1, h2, h3, _, _, hw, tr, hout, hdata⟩ :=
    (nftTransferSender_crossShard_effect envS cS ctxS hpres hx).elim hS'
  obtain ⟨hrcv, hparse⟩ := hdeliver dst tr hout
  rw [hdata, continuation_parses _ _ (by simp [protoNames])] at hparse
  injection hparse with hparse
  have hargs : cD.args = cS.args.take 3 ++ [encToken { t with value := some (beNat qb : Int) }] ++
      (if cS.args.length > 4 then cS.args.drop 4 else []) := (Prod.mk.inj hparse).2.symm
  -- the sender's entry carries metadata (the sender-side lookup refuses an entry without, nonce > 0)
  obtain ⟨rest3, hshape⟩ : ∃ rest, cS.args = tok :: nb :: qb :: rest := args_cons3' h0 h1 h2
  have hargs' : cD.args = tok :: nb :: qb :: encToken { t with value := some (beNat qb : Int) } ::
      (if cS.args.length > 4 then cS.args.drop 4 else []) := by
    rw [hargs, hshape]; rfl
  have htok : TokenOK { t with value := some (beNat qb : Int) } := by
    apply hok; rw [h0, h1]; exact hw.old
  have hdec := C08.wire_roundtrip t (beNat qb : Int) htok
  obtain ⟨m, hm⟩ : ∃ m, t.md = some m := Option.isSome_iff_exists.mp hw.hasMeta
  obtain ⟨hcur, hhash, hg1, hg2, hg3, hpos, hlen⟩ := hdest tok nb qb t m h0 h1 h2 hw.old hm
  obtain ⟨outD, ctxD', hD, hrc, hwr⟩ := esdtNFTTransfer_delivery_accepted envD cD ctxD tok nb qb _ _ hargs' hval hne hsndD hdstD
    hnf { t with value := some (beNat qb : Int) } cur m (beNat qb : Int) cv hdec hm hpay hcur hhash hg1 hg2 hg3 rfl hcv hpos hlen
  exact ⟨tok, nb, qb, t, m, outD, ctxD', h0, h1, h2, hw.old, hm, hD, hrc, hwr⟩

/-- non-vacuity of the destination-side premises: on a destination that holds nothing and a shard where nothing is
    paused the gate passes and the slot reads as the empty fungible entry -/
example (a k : Bytes) : GatePasses [] a k fungibleDefault false ∧ tokenOf (Accts.read [] a k) = some fungibleDefault :=
  ⟨Or.inr (Or.inr ⟨rfl, rfl⟩), rfl⟩

/-- FULL (MultiESDTNFTTransfer; same clause): the destination half of a multi transfer — the delivered message: count,
    three arguments per item, optionally an attached call — SUCCEEDS and leaves exactly the storage the items state,
    whenever the count fits the argument list and EVERY item is accepted at the state it meets (`DestItemsOK`,
    Proofs/Accept3.lean — per item exactly the property's list: an NFT / SFT item's payload decodes to an entry with
    metadata, the destination's slot is empty or decodes, the gates pass for what is held and for what arrives, no OTHER
    hash is held, the merged quantity is positive and fits; a fungible item meets a well-formed fungible entry whose gate
    passes; payability confirmed wherever it has to be verified — threshold: the bare message's own argument count).
    Repeated and mixed items included; any call type. Total correctness. That the message a successful sender-side call
    emitted HAS this form (count :: payload ++ attached call, every NFT payload the sender's entry with the transferred
    quantity) is `parser_matches_multi_message` / C01.multi_conservation_history. -/
theorem multi_delivery_accepted (env : Env) (c : Call) (ctx : Ctx) (cnt : Bytes)
    (h0 : c.args[0]? = some cnt) (hval : c.callValue = 0) (hne : c.caller ≠ c.rcv)
    (hsnd : present env.nshards env.self c.caller = false) (hdst : present env.nshards env.self c.rcv = true)
    (hnf : ctx.failAt = none)
    (n : Nat) (hn : n = u64 (beNat cnt)) (hn0 : n ≠ 0) (hfit : 3 * n + 1 ≤ c.args.length) (hphys : c.args.length < two64)
    (A' : Accts) (hitems : DestItemsOK env c (mustVerifyPayable c (3 * n + 1)) n 1 ctx.accts A') :
    ∃ out ctx', multiTransfer env c ctx = .ok (out, ctx') ∧ out.rc = 0 ∧ ctx'.accts = A' :=
  multiTransfer_delivery_accepted env c ctx cnt h0 hval hne hsnd hdst hnf n hn hn0 hfit hphys A' hitems

/-- non-vacuity: one fungible item arriving at a destination that holds nothing, nothing paused, no payability question
    (a callback): the item is accepted -/
example (env : Env) (c : Call) (tok : Bytes) (hrcv : c.rcv ≠ esdtSCAddress) :
    DestItemOK env c false tok [] [5] [] (Accts.write [] c.rcv (esdtKeyPrefix ++ tok)
      (storedForm { fungibleDefault with value := some ((0 : Int) + (beNat [5] : Int)) })) :=
  DestItemOK.fungible fungibleDefault 0 (by decide) (fun h => by cases h) rfl rfl rfl (by decide)
    (Or.inr (Or.inr ⟨rfl, rfl⟩)) (by decide +kernel)

end C10
