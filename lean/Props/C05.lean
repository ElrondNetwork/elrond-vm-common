/-
  Props/C05.lean — C05: the protocol storage namespace is protected; every function has a bounded footprint.
-/
import Proofs.Writes
import Proofs.SkvExact
import Facts.Generated
namespace C05
open Esdt

/-- the protected prefix (spec literal), as in the code and in the model -/
def protectedLit : Bytes := [69, 76, 82, 79, 78, 68]    -- "ELROND"

theorem prefix_as_in_code :
    Facts.protectedKeyPrefix = protectedLit ∧ Esdt.protectedPrefix = protectedLit ∧
    Esdt.esdtKeyPrefix = protectedLit ++ Facts.esdtKeyIdentifier ∧
    Esdt.roleKeyPrefix = protectedLit ++ Facts.esdtRoleIdentifier ++ Facts.esdtKeyIdentifier ∧
    Esdt.nonceKeyPrefix = protectedLit ++ Facts.esdtNonceIdentifier := by decide

/-- footprint of each function (spec): token functions / account-level functions / SaveKeyValue -/
def footprint (f : FnId) (c : Call) : Bytes → Slot → Prop :=
  match f with
  | .changeOwnerAddress | .claimDeveloperRewards | .setUserName => acctFootprint f c
  | .saveKeyValue => skvFootprint c
  | .setRole | .unSetRole => tokenFootprint true false c          -- balance + role-list namespace … only the role key is written
  | .nftCreateRoleTransfer => tokenFootprint true true c          -- role list and nonce counter
  | .nftCreate => tokenFootprint false true c                     -- the new entry and the creator's nonce counter
  | _ => tokenFootprint false false c                             -- balance entries (and the pause flag) only

/-- FULL (part 2): every built-in function changes only the protocol entries of the tokens named in its input —
    or, for the three account-level functions, only the owner / user-name / developer-reward / balance fields;
    for SaveKeyValue only listed, unprotected keys of the caller — and only in the sender, destination, an
    address argument or the system account; nothing else in the shard's state changes.
    (A failing call changes nothing at all: the node rolls back, Appendix C.) -/
theorem bounded_footprint (f : FnId) (env : Env) (c : Call) (ctx ctx' : Ctx) (out : VMOutput)
    (h : exec env f c ctx = .ok (out, ctx')) : Frame (footprint f c) ctx.accts ctx'.accts := by
  intro a s hs
  refine exec_frame h a s (fun hw => hs ?_)
  cases s with
  | key k =>
    obtain ⟨hA, hK⟩ := hw
    cases f <;> first
      | exact hA.elim
      | exact ⟨hA, (hK.resolve_right (fun ⟨_, _, h⟩ => by rcases h with ⟨h, _⟩ | ⟨h, _⟩ | ⟨h, _⟩ <;> cases h)).2⟩
      | exact ⟨wrAddr_addrOK hA, wrKey_protoKey hK nofun (by decide) (by decide)⟩
  | _ => cases f <;> first | exact hw | cases hw.1

/-- a key that begins with the protected prefix is never allowed (any length ≥ 6, any continuation) … -/
theorem protected_not_allowed (rest : Bytes) : isAllowedToSaveUnderKey (protectedLit ++ rest) = false := by
  simp [isAllowedToSaveUnderKey, protectedPrefix, ascii, protectedLit]

/-- … keys shorter than the prefix, and keys that merely resemble it (case variants, shifted), are ordinary keys -/
theorem short_keys_allowed (k : Bytes) (h : k.length < 6) : isAllowedToSaveUnderKey k = true := by
  simp [isAllowedToSaveUnderKey, protectedPrefix, ascii, h]
theorem lookalikes_allowed :
    isAllowedToSaveUnderKey (ascii "elrondesdt") = true ∧ isAllowedToSaveUnderKey (ascii "ELRONd") = true ∧
    isAllowedToSaveUnderKey (ascii "XELROND") = true ∧ isAllowedToSaveUnderKey (ascii "ELRON") = true ∧
    isAllowedToSaveUnderKey (ascii "ELROND") = false ∧ isAllowedToSaveUnderKey (ascii "ELROND!") = false := by decide

/-- FULL (part 1a): SaveKeyValue never creates, changes or deletes a storage key that begins with "ELROND" —
    in any account, for any arguments, whatever else the call does -/
theorem skv_never_touches_protected (env : Env) (c : Call) (ctx ctx' : Ctx) (out : VMOutput)
    (h : exec env .saveKeyValue c ctx = .ok (out, ctx')) (a rest : Bytes) :
    (ctx'.accts.get a).store.get (protectedLit ++ rest) = (ctx.accts.get a).store.get (protectedLit ++ rest) := by
  have hf := bounded_footprint .saveKeyValue env c ctx ctx' out h a (.key (protectedLit ++ rest))
  apply hf
  simp only [footprint, skvFootprint]
  rintro ⟨_, _, hallowed⟩
  rw [protected_not_allowed] at hallowed
  cases hallowed

/-- … and it leaves every other account, and the non-storage fields of every account, untouched -/
theorem skv_only_own_storage (env : Env) (c : Call) (ctx ctx' : Ctx) (out : VMOutput)
    (h : exec env .saveKeyValue c ctx = .ok (out, ctx')) (a k : Bytes) (ha : a ≠ c.caller) :
    (ctx'.accts.get a).store.get k = (ctx.accts.get a).store.get k := by
  have hf := bounded_footprint .saveKeyValue env c ctx ctx' out h a (.key k)
  apply hf
  simp only [footprint, skvFootprint]
  rintro ⟨he, _⟩
  exact ha he

/-- FULL (part 1b): SaveKeyValue is accepted only when a non-contract account, present on the shard, writes to itself -/
theorem skv_guard (env : Env) (c : Call) (ctx : Ctx) :
    Post (saveKeyValue env c) ctx (fun _ _ =>
      c.caller = c.rcv ∧ isSmartContractAddress c.caller = false ∧ present env.nshards env.self c.caller = true ∧
      c.callValue = 0 ∧ c.args.length % 2 = 0 ∧ 2 ≤ c.args.length) := by
  unfold saveKeyValue
  wp
  all_goals (simp only [decide_eq_false_iff_not, Bool.not_eq_false', Decidable.not_not, Nat.not_lt] at *; simp_all)

/-- the three protocol namespaces are pairwise disjoint and all extend the protected prefix -/
theorem namespaces_disjoint (t1 t2 : Bytes) :
    esdtKeyPrefix ++ t1 ≠ roleKeyPrefix ++ t2 ∧ esdtKeyPrefix ++ t1 ≠ nonceKeyPrefix ++ t2 ∧
    roleKeyPrefix ++ t1 ≠ nonceKeyPrefix ++ t2 := by
  refine ⟨?_, ?_, ?_⟩ <;> intro h <;>
    (have := congrArg (List.take 7) h; simp [esdtKeyPrefix, roleKeyPrefix, nonceKeyPrefix, ascii] at this)

theorem namespaces_protected (t : Bytes) :
    isAllowedToSaveUnderKey (esdtKeyPrefix ++ t) = false ∧ isAllowedToSaveUnderKey (roleKeyPrefix ++ t) = false ∧
    isAllowedToSaveUnderKey (nonceKeyPrefix ++ t) = false := by
  simp [isAllowedToSaveUnderKey, protectedPrefix, esdtKeyPrefix, roleKeyPrefix, nonceKeyPrefix, ascii]

/-! ### "… and writes exactly the listed key/value pairs" -/

/-- spec: the (key, value) pairs a SaveKeyValue call lists, in order -/
def pairsOf : List Bytes → List (Bytes × Bytes)
  | k :: v :: rest => (k, v) :: pairsOf rest
  | _ => []

/-- spec: the value the list assigns to key `k` — that of the LAST pair naming `k`, if any pair does -/
def assigned : List (Bytes × Bytes) → Bytes → Option Bytes
  | [], _ => none
  | (k', v) :: rest, k =>
    match assigned rest k with
    | some x => some x
    | none => if k' = k then some v else none

/-- spec: storage after writing the pairs in order (`put` with an empty value deletes the key) -/
def writePairs (s : Store) (ps : List (Bytes × Bytes)) : Store := ps.foldl (fun s p => s.put p.1 p.2) s

theorem putPairs_eq_writePairs : ∀ (l : List Bytes) (s : Store), putPairs s l = writePairs s (pairsOf l)
  | [], s => rfl
  | [_], s => rfl
  | k :: v :: rest, s => by
    simp only [putPairs, pairsOf, writePairs, List.foldl_cons]
    exact putPairs_eq_writePairs rest (s.put k v)

theorem writePairs_get (ps : List (Bytes × Bytes)) : ∀ (s : Store) (k : Bytes),
    (writePairs s ps).get k = (assigned ps k).getD (s.get k) := by
  induction ps with
  | nil => intro s k; rfl
  | cons p ps ih =>
    intro s k
    obtain ⟨k', v⟩ := p
    have h := ih (s.put k' v) k
    simp only [writePairs, List.foldl_cons] at h ⊢
    rw [h, Store.get_put]
    simp only [assigned]
    cases assigned ps k with
    | some x => rfl
    | none => by_cases hk : k' = k <;> simp [hk]

/-- FULL (part 1c): a successful SaveKeyValue writes exactly the listed key/value pairs: afterwards every key of the
    caller's storage holds the value of the LAST pair that names it (an empty value: the key is gone), and every key no
    pair names holds what it held before. (Other accounts and the non-storage fields: `skv_only_own_storage`,
    `bounded_footprint`.) The implementation skips the trie write of a pair whose value is already stored and stops at
    gas guards in between; neither shows in the result. -/
theorem skv_writes_exactly_the_pairs (env : Env) (c : Call) (ctx ctx' : Ctx) (out : VMOutput)
    (h : exec env .saveKeyValue c ctx = .ok (out, ctx')) (k : Bytes) :
    (ctx'.accts.get c.caller).store.get k =
      (assigned (pairsOf c.args) k).getD ((ctx.accts.get c.caller).store.get k) := by
  have := (saveKeyValue_exact env c ctx).elim h k
  rw [putPairs_eq_writePairs, writePairs_get] at this
  exact this

/-- the same as one storage: the left fold of `put` over the pairs -/
theorem skv_result_is_fold (env : Env) (c : Call) (ctx ctx' : Ctx) (out : VMOutput)
    (h : exec env .saveKeyValue c ctx = .ok (out, ctx')) (k : Bytes) :
    (ctx'.accts.get c.caller).store.get k = (writePairs (ctx.accts.get c.caller).store (pairsOf c.args)).get k := by
  have := (saveKeyValue_exact env c ctx).elim h k
  rwa [putPairs_eq_writePairs] at this

/-- non-vacuity, kernel-evaluated: one key listed twice — first a new value, then the value it had before the call —
    ends with the LATER pair's value; a key written and then deleted in the same call is gone; an untouched key stays -/
def xvAlice : Bytes := List.replicate 32 1
def xvEnv : Env := { self := 0, nshards := 1, payable := fun _ => .yes, dns := [], nameChange := false, gas := {}, active := true }
def xvK : Bytes := [107]
def xvF : Bytes := [102]
def xvZ : Bytes := [122]
def xvCtx : Ctx := { accts := [(xvAlice, { store := [(xvK, [111, 108, 100]), (xvZ, [1, 2])] })] }
def xvCall : Call :=
  { fn := fnSaveKeyValue, caller := xvAlice, rcv := xvAlice, gas := 1000000,
    args := [xvK, [110, 101, 119], xvK, [111, 108, 100], xvF, [5], xvF, []] }
example : (match exec xvEnv .saveKeyValue xvCall xvCtx with
    | .ok (_, c') => c'.accts.read xvAlice xvK == [111, 108, 100] && c'.accts.read xvAlice xvF == [] &&
        c'.accts.read xvAlice xvZ == [1, 2]
    | _ => false) = true := by decide +kernel

end C05
