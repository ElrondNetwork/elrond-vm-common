/-
  Props/C04.lean — C04: frozen accounts and paused tokens cannot move funds.
  `Gate`: what the property calls "frozen for the token" / "token paused on the shard", read from the state.
-/
import Proofs.Ledger
import Proofs.Gates
import Proofs.WF
import Proofs.FrozenHistory
import Proofs.UnifiedFrozen
import Proofs.PausedHistory
import Proofs.UnifiedPaused
import Proofs.UnifiedPausedNFT
import Proofs.UnifiedPausedMulti
import Proofs.UnifiedFrozenMulti
namespace C04
open Esdt

/-- the account's fungible entry of `tok` carries the frozen flag (bit 0 of a 2-byte properties field: spec literal) -/
def Frozen (A : Accts) (a tok : Bytes) : Prop :=
  ∃ t, tokenOf (A.read a (esdtKeyPrefix ++ tok)) = some t ∧ frozenOf t.properties = true

/-- the token is paused on this shard: the system account holds a 2-byte flag with bit 0 under ELRONDesdt‖tok -/
def Paused (A : Accts) (tok : Bytes) : Prop := pausedIn A (esdtKeyPrefix ++ tok) = true

/-- exemptions named by the property: refunds flagged return-after-error, and the system contract's own account -/
def Exempt (c : Call) (a : Bytes) : Prop := c.rae = true ∨ a = esdtSCAddress

theorem gate_blocks {A : Accts} {a tok : Bytes} {t : Token} {rae : Bool}
    (hg : GateOpen A a (esdtKeyPrefix ++ tok) t rae) (ht : tokenOf (A.read a (esdtKeyPrefix ++ tok)) = some t)
    (hne : rae = false) (ha : a ≠ esdtSCAddress) : ¬ Frozen A a tok ∧ ¬ Paused A tok := by
  obtain ⟨hf, hp⟩ := hg hne ha
  constructor
  · rintro ⟨t', ht', hfr⟩
    rw [ht] at ht'; cases ht'
    rw [hf] at hfr; cases hfr
  · intro hpa; unfold Paused at hpa; rw [hp] at hpa; cases hpa

/-- FULL (fungible part, caller side): while the caller is frozen for the token, or the token is paused on the shard,
    local mint, local burn, global burn and sending all fail (unless exempt) -/
theorem frozen_or_paused_blocks_caller (env : Env) (c : Call) (ctx ctx' : Ctx) (out : VMOutput)
    (hex : ¬ Exempt c c.caller) :
    (esdtLocalMint env c ctx = .ok (out, ctx') ∨ esdtLocalBurn env c ctx = .ok (out, ctx') ∨
     esdtBurn env c ctx = .ok (out, ctx')) →
    ∃ tok, c.args[0]? = some tok ∧ ¬ Frozen ctx.accts c.caller tok ∧ ¬ Paused ctx.accts tok := by
  have hr : c.rae = false := by cases h : c.rae <;> simp [Exempt, h] at hex ⊢
  have ha : c.caller ≠ esdtSCAddress := fun h => hex (Or.inr h)
  rintro (h | h | h)
  · obtain ⟨tok, _, t, v, h0, _, hw, hg⟩ := (localMint_effect env c ctx).elim h
    exact ⟨tok, h0, gate_blocks hg hw.old hr ha⟩
  · obtain ⟨tok, _, t, v, h0, _, hw, hg⟩ := (localBurn_effect env c ctx).elim h
    exact ⟨tok, h0, gate_blocks hg hw.old hr ha⟩
  · obtain ⟨tok, _, t, v, h0, _, hw, hg⟩ := (esdtBurn_effect env c ctx).elim h
    exact ⟨tok, h0, gate_blocks hg hw.old hr ha⟩

/-- sending: the sender-side ESDTTransfer of a frozen sender / paused token fails -/
theorem frozen_or_paused_blocks_sending (env : Env) (c : Call) (ctx ctx' : Ctx) (out : VMOutput)
    (hs : present env.nshards env.self c.caller = true) (hd : present env.nshards env.self c.rcv = false)
    (hex : ¬ Exempt c c.caller) (h : esdtTransfer env c ctx = .ok (out, ctx')) :
    ∃ tok, c.args[0]? = some tok ∧ ¬ Frozen ctx.accts c.caller tok ∧ ¬ Paused ctx.accts tok := by
  have hr : c.rae = false := by cases h : c.rae <;> simp [Exempt, h] at hex ⊢
  have ha : c.caller ≠ esdtSCAddress := fun h => hex (Or.inr h)
  obtain ⟨tok, _, t, v, h0, _, _, hw, hg, _⟩ := (esdtTransfer_senderOnly_effect env c ctx hs hd).elim h
  exact ⟨tok, h0, gate_blocks hg hw.old hr ha⟩

/-- receiving: a cross-shard arrival at a frozen destination / for a paused token fails — unless it is the refund
    flagged return-after-error (which must restore the sender) -/
theorem frozen_or_paused_blocks_receiving (env : Env) (c : Call) (ctx ctx' : Ctx) (out : VMOutput)
    (hs : present env.nshards env.self c.caller = false) (hd : present env.nshards env.self c.rcv = true)
    (hex : ¬ Exempt c c.rcv) (h : esdtTransfer env c ctx = .ok (out, ctx')) :
    ∃ tok, c.args[0]? = some tok ∧ ¬ Frozen ctx.accts c.rcv tok ∧ ¬ Paused ctx.accts tok := by
  have hr : c.rae = false := by cases h : c.rae <;> simp [Exempt, h] at hex ⊢
  have ha : c.rcv ≠ esdtSCAddress := fun h => hex (Or.inr h)
  obtain ⟨tok, _, t, v, h0, _, _, hw, hg, _⟩ := (esdtTransfer_destOnly_effect env c ctx hs hd).elim h
  exact ⟨tok, h0, gate_blocks hg hw.old hr ha⟩

/-- NFT / SFT quantities: add-quantity and burn fail while the token is paused (the gate is evaluated on the token
    key, so every nonce of the token is covered) -/
theorem paused_blocks_nft_quantity (env : Env) (c : Call) (ctx ctx' : Ctx) (out : VMOutput) (hex : ¬ Exempt c c.caller) :
    (esdtNFTAddQuantity env c ctx = .ok (out, ctx') ∨ esdtNFTBurn env c ctx = .ok (out, ctx')) →
    ∃ tok, c.args[0]? = some tok ∧ ¬ Paused ctx.accts tok := by
  have hr : c.rae = false := by cases h : c.rae <;> simp [Exempt, h] at hex ⊢
  have ha : c.caller ≠ esdtSCAddress := fun h => hex (Or.inr h)
  rintro (h | h)
  · obtain ⟨tok, _, _, t, v, h0, _, _, _, _, hg⟩ := (addQuantity_effect env c ctx).elim h
    refine ⟨tok, h0, ?_⟩
    intro hp; have := (hg hr ha).2; unfold Paused at hp; rw [this] at hp; cases hp
  · obtain ⟨tok, _, _, t, v, h0, _, _, _, _, _, hg⟩ := (nftBurn_effect env c ctx).elim h
    refine ⟨tok, h0, ?_⟩
    intro hp; have := (hg hr ha).2; unfold Paused at hp; rw [this] at hp; cases hp

/-- the toggles themselves preserve balances: freeze / unfreeze rewrite only the flag bytes of the entry … -/
theorem freeze_unfreeze_preserve_balance (kind : FreezeKind) (hk : kind ≠ .wipe) (env : Env) (c : Call) (ctx ctx' : Ctx)
    (out : VMOutput) (h : esdtFreezeWipe kind env c ctx = .ok (out, ctx')) :
    ∃ tok t, c.args[0]? = some tok ∧ c.caller = esdtSCAddress ∧
      tokenOf (ctx.accts.read c.rcv (esdtKeyPrefix ++ tok)) = some t ∧
      ctx'.accts = ctx.accts.write c.rcv (esdtKeyPrefix ++ tok)
        (storedForm { t with properties := flagBytes (kind == .freeze) }) := by
  obtain ⟨tok, t, h0, hc, ht, _, hw⟩ := (toggleFreeze_effect kind hk env c ctx).elim h
  exact ⟨tok, t, h0, hc, ht, hw⟩

/-- … and unfreezing restores exactly the unfrozen entry: freeze followed by unfreeze stores the same bytes as an
    unfreeze alone (value, type, metadata, reserved untouched; flag bytes `00 00`) -/
theorem unfreeze_after_freeze (t : Token) :
    storedForm { ({ t with properties := flagBytes true } : Token) with properties := flagBytes false } =
    storedForm { t with properties := flagBytes false } := rfl

/-- a frozen-flag carrier keeps the flag even with a zero balance, an unfrozen zero entry is deleted -/
theorem zero_entry_forms (t : Token) (h : t.value = some 0) :
    storedForm { t with properties := flagBytes false } = [] ∧
    storedForm { t with properties := flagBytes true } ≠ [] := by
  constructor
  · simp [storedForm, h, flagBytes, allZero]
  · simp [storedForm, flagBytes, allZero, encToken_ne_nil]

/-- NFT / SFT create, metadata updates and transfers: every one of them fails while the token is paused on the shard
    (all write through `saveESDTNFTToken`, which evaluates the gate on the token key — every nonce is covered) -/
theorem paused_blocks_nft_functions (env : Env) (c : Call) (ctx ctx' : Ctx) (out : VMOutput) (hex : ¬ Exempt c c.caller)
    (hs : present env.nshards env.self c.caller = true) :
    (esdtNFTCreate env c ctx = .ok (out, ctx') ∨ esdtNFTAddURI env c ctx = .ok (out, ctx') ∨
     esdtNFTUpdateAttributes env c ctx = .ok (out, ctx') ∨ esdtNFTTransferSender env c ctx = .ok (out, ctx')) →
    ∃ tok, c.args[0]? = some tok ∧ ¬ Paused ctx.accts tok := by
  have hr : c.rae = false := by cases h : c.rae <;> simp [Exempt, h] at hex ⊢
  have ha : c.caller ≠ esdtSCAddress := fun h => hex (Or.inr h)
  have fin : (∃ tok, c.args[0]? = some tok ∧ PauseOpen ctx.accts c c.caller tok) →
      ∃ tok, c.args[0]? = some tok ∧ ¬ Paused ctx.accts tok := by
    rintro ⟨tok, h0, hp⟩
    refine ⟨tok, h0, ?_⟩
    intro hpa; unfold Paused at hpa; rw [hp hr ha] at hpa; cases hpa
  rintro (h | h | h | h)
  · exact fin ((pause_nftCreate env c ctx).elim h)
  · exact fin ((pause_addURI env c ctx).elim h)
  · exact fin ((pause_updateAttributes env c ctx).elim h)
  · exact fin ((pause_nftTransferSender env c ctx hs).elim h)

/-- … the arrival of an NFT at its destination shard too (unless it is the refund flagged return-after-error) -/
theorem paused_blocks_nft_receiving (env : Env) (c : Call) (ctx ctx' : Ctx) (out : VMOutput) (hne : c.caller ≠ c.rcv)
    (hex : ¬ Exempt c c.rcv) (h : esdtNFTTransfer env c ctx = .ok (out, ctx')) :
    ∃ tok, c.args[0]? = some tok ∧ ¬ Paused ctx.accts tok := by
  have hr : c.rae = false := by cases h : c.rae <;> simp [Exempt, h] at hex ⊢
  have ha : c.rcv ≠ esdtSCAddress := fun h => hex (Or.inr h)
  obtain ⟨tok, h0, hp⟩ := (pause_nftTransferDest env c ctx hne).elim h
  refine ⟨tok, h0, ?_⟩
  intro hpa; unfold Paused at hpa; rw [hp hr ha] at hpa; cases hpa

/-- … and each sender-side item of a multi transfer -/
theorem paused_blocks_multi_item (env : Env) (c : Call) (l : Bool) (dst tok : Bytes) (n q : Nat) (v : Bool)
    (ctx ctx' : Ctx) (t : Token) (hex : ¬ Exempt c c.caller)
    (h : transferOne env c l dst tok n q v ctx = .ok (t, ctx')) : ¬ Paused ctx.accts tok := by
  have hr : c.rae = false := by cases h : c.rae <;> simp [Exempt, h] at hex ⊢
  have ha : c.caller ≠ esdtSCAddress := fun h => hex (Or.inr h)
  have hp := (pause_transferOne env c l dst tok n q v ctx).elim h
  intro hpa; unfold Paused at hpa; rw [hp hr ha] at hpa; cases hpa

/-- pause / unpause change nothing outside the system account: every balance of every account is untouched, so
    unpausing restores exactly the earlier behaviour -/
theorem pause_unpause_preserve_balances (p : Bool) (env : Env) (c : Call) (ctx ctx' : Ctx) (out : VMOutput)
    (h : esdtPause p env c ctx = .ok (out, ctx')) (a k : Bytes) (ha : a ≠ systemAccountAddress) :
    ctx'.accts.read a k = ctx.accts.read a k := by
  cases p
  · exact exec_read_eq (f := .esdtUnPause) (env := env) h (fun hw => ha hw.1)
  · exact exec_read_eq (f := .esdtPause) (env := env) h (fun hw => ha hw.1)

/-- FULL (one call, the supply operations): while account `a` is frozen for fungible token `tok`, a successful local mint,
    local burn, burn, NFT create, add-quantity, NFT burn or re-freeze — by ANY caller with ANY arguments, not flagged
    return-after-error — leaves `a`'s balance of `tok` as it was and `a` frozen (wipe and unfreeze are the exceptions the
    property names).  Aliasing spellings are covered for the functions that read before they write (their gate is evaluated
    on the very entry they rewrite); NFT create writes a fresh entry, hence `hnoalias`. -/
theorem frozen_balance_unchanged (op : SupplyOp) (hop : op ≠ .wipe ∧ op ≠ .unfreeze) (env : Env) (c : Call) (A : Accts)
    (out : VMOutput) (ctx' : Ctx) (hI : SInv A) (hrsys : c.rcv ≠ systemAccountAddress)
    (h : op.run env c { accts := A } = .ok (out, ctx')) (a tok : Bytes) (hfz : FrozenAt A a tok)
    (hrae : c.rae = false) (hsc : a ≠ esdtSCAddress)
    (hnoalias : op = .create → ∀ tok' n, c.args[0]? = some tok' →
      nftKey (esdtKeyPrefix ++ tok') n ≠ esdtKeyPrefix ++ tok) :
    balOf (ctx'.accts.read a (esdtKeyPrefix ++ tok)) = balOf (A.read a (esdtKeyPrefix ++ tok)) ∧
      FrozenAt ctx'.accts a tok :=
  frozen_step op hop env c A out ctx' hI hrsys h a tok hfz hrae hsc hnoalias

/-- FULL (operation sequences, the supply operations): along ANY sequence of those operations (failed ones rolled back)
    that contains no wipe / unfreeze and no return-after-error call, an account that is frozen for a token at the start
    holds exactly the same balance of it at the end, and is still frozen. -/
theorem frozen_balance_history (a tok : Bytes) (hsc : a ≠ esdtSCAddress) (steps : List SStep) (A : Accts) (hI : SInv A)
    (hok : SStepsOK steps A) (hfs : ∀ s ∈ steps, FStepOK tok s) (hfz : FrozenAt A a tok) :
    balOf ((srun steps A).1.read a (esdtKeyPrefix ++ tok)) = balOf (A.read a (esdtKeyPrefix ++ tok)) ∧
      FrozenAt (srun steps A).1 a tok :=
  frozen_history_run a tok hsc steps A hI hok hfs hfz

/-! non-vacuity: alice holds 5 of a token and is frozen for it, bob holds the mint role: `FrozenAt` holds of that state, a
    mint by bob (another account, same token) succeeds on it, and alice's entry is bit-for-bit what it was -/
def fzAlice : Bytes := List.replicate 32 1
def fzBob : Bytes := List.replicate 32 2
def fzTok : Bytes := [70, 84]
def fzEntry : Token := { type := 0, value := some 5, properties := [1, 0] }
def fzA : Accts :=
  Accts.write (Accts.write [] fzBob (roleKeyPrefix ++ fzTok) (encRoles [roleLocalMint])) fzAlice (esdtKeyPrefix ++ fzTok)
    (encToken fzEntry)
def fzEnv : Env := { self := 0, nshards := 1, payable := fun _ => .yes, dns := [], nameChange := false, gas := {}, active := true }
def fzMint : Call := { fn := fnESDTLocalMint, caller := fzBob, rcv := fzBob, args := [fzTok, [9]], gas := 100 }
example : FrozenAt fzA fzAlice fzTok := ⟨fzEntry, by decide +kernel, by decide⟩
example : (match SupplyOp.mint.run fzEnv fzMint { accts := fzA } with
    | .ok (_, c') => c'.accts.read fzAlice (esdtKeyPrefix ++ fzTok) == encToken fzEntry &&
        balOf (c'.accts.read fzBob (esdtKeyPrefix ++ fzTok)) == 9
    | _ => false) = true := by decide +kernel

/-- `FrozenAt` is the `Frozen` of this file -/
theorem frozenAt_iff (A : Accts) (a tok : Bytes) : FrozenAt A a tok ↔ Frozen A a tok := Iff.rfl

/-! ### the mixed world (Proofs/UnifiedFrozen.lean): ESDTTransfer traffic and the 20 non-transfer functions -/

/-- FULL, frozen half, ALL 23 functions (histories; any number of shards; any interleaving): while `a` is frozen for the
    fungible token `tok` on shard `i` and holds `v`, no history of ESDTTransfer, ESDTNFTTransfer and MultiESDTNFTTransfer
    user transactions, deliveries, refusals and refunds — of any tokens, any number of repeated / mixed items, between any
    accounts, `a` included as sender or receiver — mixed with calls of the 20 other functions by anybody on any shard moves
    that balance or lifts the freeze; excluded are exactly the steps the property names — a wipe / unfreeze of (a, tok), a
    flagged refund of `tok`, calls flagged return-after-error — and, as everywhere, token identifiers that alias
    (`NoAliasTok` / `NoAliasArgs`; on the SENDER side of an NFT / multi transfer also `FungOnly`: no item names the
    fungible `tok` with a non-zero nonce — an entry whose metadata carries nonce 0 would otherwise be saved under the
    fungible key, the legacy layout the existing tests rely on). Proofs/UnifiedFrozen.lean, UnifiedFrozenMulti.lean: the
    gate of every credit looks at the entry the account HOLDS (`spec_addNFTToDestination`, `spec_addToESDTBalance`), a
    fungible item of a multi transfer writes the entry it read (`fzn_transferOne_tok`), loops by induction. -/
theorem frozen_balance_in_mixed_world (a tok : Bytes) (v : Int) (e : Env) (i : Nat) (hsc : a ≠ esdtSCAddress)
    (hsys : a ≠ systemAccountAddress) (steps : List UStep) (w : UWorld) (hI : UInv e w) (hok : UStepsOK e steps w)
    (hfz : UFzStepsOK2 e a tok steps w) (hF : FzW a tok v i w) : FzW a tok v i (urun e steps w).1 :=
  unified_fz_history2 e i hsc hsys steps w hI hok hfz hF

/-! non-vacuity: one shard; alice frozen with 5; bob mints 9, tries to send 4 to alice (refused: the world is unchanged),
    sends 3 to carol, the system contract pauses and un-pauses another token: alice still holds 5, frozen -/
def fzCarol : Bytes := List.replicate 32 3
def fzW0 : UWorld := { shards := [fzA], ft := [], nft := [], multi := [] }
def fzToAlice : Call := { fn := fnESDTTransfer, caller := fzBob, rcv := fzAlice, args := [fzTok, [4]], gas := 100 }
def fzToCarol : Call := { fn := fnESDTTransfer, caller := fzBob, rcv := fzCarol, args := [fzTok, [3]], gas := 100 }
def fzPause : Call := { fn := fnESDTPause, caller := esdtSCAddress, rcv := systemAccountAddress, args := [[88]], gas := 100 }
def fzSteps : List UStep :=
  [.call 0 .localMint fzMint, .ft (.user fzToAlice), .ft (.user fzToCarol), .call 0 .esdtPause fzPause]
def fzFinal : UWorld := (urun fzEnv fzSteps fzW0).1

example : (fzFinal.shards[0]?.map fun A => (A.read fzAlice (esdtKeyPrefix ++ fzTok) == encToken fzEntry,
    balOf (A.read fzBob (esdtKeyPrefix ++ fzTok)), balOf (A.read fzCarol (esdtKeyPrefix ++ fzTok)))) =
    some (true, 6, 3) := by decide +kernel

example : FzW fzAlice fzTok 5 0 fzW0 :=
  ⟨fzA, rfl, ⟨fzEntry, by decide +kernel, by decide⟩, by decide +kernel⟩

theorem fzA_sinv : SInv fzA := by
  have hread : ∀ a k, TokKey k → fzA.read a k =
      if fzAlice = a ∧ esdtKeyPrefix ++ fzTok = k then encToken fzEntry else [] := by
    intro a k hk
    unfold fzA
    rw [Accts.read_write]
    split
    · rfl
    · have hne : ¬ (fzBob = a ∧ roleKeyPrefix ++ fzTok = k) := fun h => not_tokKey_role fzTok (h.2 ▸ hk)
      rw [Accts.read_write, if_neg hne]; rfl
  refine ⟨by unfold Accts.Nodup; decide, ?_, ?_, ?_⟩
  · intro a k hk _
    rw [hread a k hk]
    split
    · rename_i he
      refine Or.inr ⟨fzEntry, by decide +kernel, ⟨5, rfl, Or.inl (by decide)⟩, fun m hm => by simp [fzEntry] at hm⟩
    · exact Or.inl rfl
  · intro a k
    unfold fzA
    rw [Accts.read_write]
    split
    · decide +kernel
    · rw [Accts.read_write]
      split
      · decide +kernel
      · show ([] : Bytes).length < two63; decide
  · intro a k t m hk hne hdec hm
    rw [hread a k hk] at hne hdec
    split at hne
    · rename_i he
      rw [if_pos he] at hdec
      have : decToken (encToken fzEntry) = some fzEntry := by decide +kernel
      rw [this] at hdec; cases hdec
      simp [fzEntry] at hm
    · exact absurd rfl hne

example : UInv fzEnv fzW0 := by
  refine ⟨?_, fun _ h => (by cases h), fun _ h => (by cases h), fun _ h => (by cases h)⟩
  intro A hA
  simp only [fzW0, List.mem_cons, List.mem_nil_iff, or_false] at hA
  subst hA
  exact fzA_sinv

example : UStepsOK fzEnv fzSteps fzW0 := by
  refine ⟨fun A _ => ⟨rfl, ?_, fun _ => (by decide), fun _ => ⟨by decide, by decide⟩, fun h => (by cases h)⟩,
    ⟨by decide, by decide⟩, ⟨by decide, by decide⟩,
    fun A _ => ⟨rfl, ?_, fun h => (by revert h; decide), fun h => (by cases h), fun h => (by cases h)⟩, trivial⟩
  all_goals
    intro a ha
    simp only [fzMint, fzPause, List.mem_cons, List.mem_nil_iff, or_false] at ha
    rcases ha with rfl | rfl <;> decide

example : UFzStepsOK2 fzEnv fzAlice fzTok fzSteps fzW0 :=
  show UFzStepsOK fzEnv fzAlice fzTok fzSteps fzW0 from
  ⟨⟨rfl, fun h => (by rcases h with h | h <;> cases h), fun h => (by rcases h with h | h | h <;> cases h)⟩,
   rfl, rfl,
   ⟨rfl, fun h => (by rcases h with h | h <;> cases h), fun h => (by rcases h with h | h | h <;> cases h)⟩, trivial⟩

/-! ### the pause half over histories (Proofs/PausedHistory.lean, Proofs/UnifiedPaused.lean) -/

/-- `PausedAt` is the `Paused` of this file -/
theorem pausedAt_iff (A : Accts) (tok : Bytes) : PausedAt A tok ↔ Paused A tok := Iff.rfl

/-- FULL (one supply operation while the token is paused): no mint / local burn / burn / NFT create / add quantity /
    NFT burn — by anybody, any arguments — changes ANY entry of the paused token (the fungible entry and the entry of
    every nonce, byte for byte: value, flags, metadata) of any account other than the ESDT system contract's own, and the
    token stays paused. No assumption on the state at all. -/
theorem paused_entries_unchanged (op : SupplyOp) (hop : op ≠ .wipe ∧ op ≠ .freeze ∧ op ≠ .unfreeze) (env : Env) (c : Call)
    (A : Accts) (out : VMOutput) (ctx' : Ctx) (h : op.run env c { accts := A } = .ok (out, ctx')) (tok : Bytes)
    (hp : Paused A tok) (hrae : c.rae = false) (hsys : c.caller ≠ systemAccountAddress) (hna : NoAliasCall tok c) :
    (∀ a n, a ≠ esdtSCAddress →
      ctx'.accts.read a (nftKey (esdtKeyPrefix ++ tok) n) = A.read a (nftKey (esdtKeyPrefix ++ tok) n)) ∧
    Paused ctx'.accts tok :=
  paused_step op hop env c A out ctx' h tok hp hrae hsys hna

/-- FULL (operation sequences): along ANY sequence of supply operations (failed ones rolled back) without the system
    contract's wipe / freeze / unfreeze and without return-after-error calls, every entry of a token that is paused at
    the start is byte for byte the same at the end, and the token is still paused -/
theorem paused_entries_history (tok : Bytes) (steps : List SStep) (A : Accts) (hps : ∀ s ∈ steps, PStepOK tok s)
    (hp : Paused A tok) :
    (∀ a n, a ≠ esdtSCAddress →
      (srun steps A).1.read a (nftKey (esdtKeyPrefix ++ tok) n) = A.read a (nftKey (esdtKeyPrefix ++ tok) n)) ∧
    Paused (srun steps A).1 tok :=
  paused_history_run tok steps A hps hp

/-- FULL, pause half, ALL 23 functions (histories; any number of shards; any interleaving): while `tok` is paused on
    shard `i`, no history of ESDTTransfer, ESDTNFTTransfer and MultiESDTNFTTransfer user transactions, deliveries,
    refusals and refunds — of any tokens, any number of items, between any accounts — mixed with calls of the 20 other
    functions by anybody on any shard changes any entry of `tok` on that shard (every account but the ESDT system
    contract's own; the fungible entry and the entry of every nonce; byte for byte: value, flags, metadata) or lifts the
    pause; excluded are exactly the steps the property names — the system contract's wipe / freeze / unfreeze / pause /
    un-pause of that very token, a flagged refund of `tok`, calls flagged return-after-error — and token identifiers
    that alias (`NoAliasTok`, `NoAliasArgs`). Proofs/UnifiedPaused.lean, UnifiedPausedNFT.lean, UnifiedPausedMulti.lean:
    every write goes through a gate that reads the pause flag of the token key (`spec_addToESDTBalance`, `spec_saveNFT`,
    `spec_addNFTToDestination`), the loops of the multi transfer by induction. -/
theorem paused_entries_in_mixed_world (tok : Bytes) (f : Bytes → Nat → Bytes) (e : Env) (i : Nat) (steps : List UStep)
    (w : UWorld) (hI : UInv e w) (hok : UStepsOK e steps w) (hpz : UPzStepsOK3 e tok steps w) (hF : PzW tok f i w) :
    PzW tok f i (urun e steps w).1 :=
  unified_pz_history3 e i steps w hI hok hpz hF

/-! non-vacuity: the world of the frozen example with `fzTok` PAUSED on the shard: bob's mint of it is refused, his transfer
    too, the system contract pauses another token: alice's entry is bit for bit what it was and `fzTok` is still paused -/
def pzA : Accts := fzA.write systemAccountAddress (esdtKeyPrefix ++ fzTok) [1, 0]
def pzW0 : UWorld := { shards := [pzA], ft := [], nft := [], multi := [] }
def pzFinal : UWorld := (urun fzEnv fzSteps pzW0).1

example : (pzFinal.shards[0]?.map fun A => (A.read fzAlice (esdtKeyPrefix ++ fzTok) == encToken fzEntry,
    balOf (A.read fzBob (esdtKeyPrefix ++ fzTok)), pausedIn A (esdtKeyPrefix ++ fzTok), pausedIn A (esdtKeyPrefix ++ [88]))) =
    some (true, 0, true, true) := by decide +kernel

example : PzW fzTok (fun a n => pzA.read a (nftKey (esdtKeyPrefix ++ fzTok) n)) 0 pzW0 :=
  ⟨pzA, rfl, (by show pausedIn pzA (esdtKeyPrefix ++ fzTok) = true; decide +kernel), fun _ _ _ => rfl⟩

theorem noAlias_self (tok : Bytes) : NoAliasTok tok tok := fun h => absurd rfl h

theorem noAlias_88 : NoAliasTok fzTok [88] := by
  intro _ n n' h
  have := congrArg (fun l => l[10]?) h
  simp [nftKey, esdtKeyPrefix, ascii, fzTok] at this

example : UPzStepsOK3 fzEnv fzTok fzSteps pzW0 := by
  show UPzStepsOK fzEnv fzTok fzSteps pzW0
  refine ⟨⟨rfl, ?_, fun h => (by rcases h with h | h | h | h | h <;> cases h)⟩, ⟨rfl, ?_⟩, ⟨rfl, ?_⟩,
    ⟨rfl, ?_, fun _ t0 h0 => ?_⟩, trivial⟩
  · intro t0 h0; simp [fzMint] at h0; subst h0; exact noAlias_self _
  · intro t0 h0; simp [fzToAlice] at h0; subst h0; exact noAlias_self _
  · intro t0 h0; simp [fzToCarol] at h0; subst h0; exact noAlias_self _
  · intro t0 h0; simp [fzPause] at h0; subst h0; exact noAlias_88
  · simp [fzPause] at h0; subst h0; decide

-- Both halves are FULL over histories of all 23 functions (above). What stays with the C04 oracle and the correspondence
-- check: steps outside `UStepOK` (forged destination-form calls, the system account as an ordinary account) and aliasing
-- token identifiers (the adversarial profile).

end C04
