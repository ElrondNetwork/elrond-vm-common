/-
  Props/C18.lean — C18: activation follows confirmed epochs; registry complete and correctly bound.
-/
import Model.World
import Facts.Generated
namespace C18
open Esdt

/-- flag after a sequence of notifications (initially unset) -/
def activeAfter (activation : Nat) (epochs : List Nat) : Bool :=
  epochs.foldl (fun _ e => epochConfirmed activation e) false

/-- FULL: a function with an activation epoch reports active exactly when the most recently confirmed
    epoch is ≥ its activation epoch — for every sequence, including regressions and repeats. -/
theorem active_iff (activation : Nat) (epochs : List Nat) (last : Nat) :
    activeAfter activation (epochs ++ [last]) = decide (last ≥ activation) := by
  simp [activeAfter, epochConfirmed]

/-- before any notification the gated functions are inactive -/
theorem inactive_initially (activation : Nat) : activeAfter activation [] = false := rfl

/-- exactly three functions are gated; every other function is always active -/
theorem gated_functions :
    FnId.all.filter FnId.epochGated = [.nftUpdateAttributes, .nftAddURI, .multiTransfer] := by decide

theorem ungated_always_active (f : FnId) (env : Env) (h : f.epochGated = false) : f.isActive env = true := by
  simp [FnId.isActive, h]

theorem gated_follows_flag (f : FnId) (env : Env) (h : f.epochGated = true) : f.isActive env = env.active := by
  simp [FnId.isActive, h]

/-- the protocol's 23 built-in function names (spec literals) -/
def protocolNames : List String :=
  ["ChangeOwnerAddress", "ClaimDeveloperRewards", "ESDTBurn", "ESDTFreeze", "ESDTLocalBurn", "ESDTLocalMint",
   "ESDTNFTAddQuantity", "ESDTNFTAddURI", "ESDTNFTBurn", "ESDTNFTCreate", "ESDTNFTCreateRoleTransfer",
   "ESDTNFTTransfer", "ESDTNFTUpdateAttributes", "ESDTPause", "ESDTSetRole", "ESDTTransfer", "ESDTUnFreeze",
   "ESDTUnPause", "ESDTUnSetRole", "ESDTWipe", "MultiESDTNFTTransfer", "SaveKeyValue", "SetUserName"]

theorem protocol_names_count : protocolNames.length = 23 ∧ protocolNames.Nodup := by decide +kernel

/-- the container built by the REAL factory (regenerated fact: sorted key set of `container.Keys()`)
    contains exactly the 23 protocol names -/
theorem registry_complete : Facts.registry = protocolNames.map ascii := by decide +kernel

/-- the model dispatches exactly these names, each to one function, and a name determines the function -/
theorem model_registry : (FnId.all.map fun f => f.name) = [
    ascii "ClaimDeveloperRewards", ascii "ChangeOwnerAddress", ascii "SetUserName", ascii "SaveKeyValue",
    ascii "ESDTPause", ascii "ESDTUnPause", ascii "ESDTTransfer", ascii "ESDTBurn", ascii "ESDTFreeze",
    ascii "ESDTUnFreeze", ascii "ESDTWipe", ascii "ESDTUnSetRole", ascii "ESDTSetRole", ascii "ESDTLocalBurn",
    ascii "ESDTLocalMint", ascii "ESDTNFTAddQuantity", ascii "ESDTNFTBurn", ascii "ESDTNFTCreate",
    ascii "ESDTNFTTransfer", ascii "ESDTNFTCreateRoleTransfer", ascii "ESDTNFTUpdateAttributes", ascii "ESDTNFTAddURI",
    ascii "MultiESDTNFTTransfer"] := rfl

/-- the model's names are the keys of the real container, in another order; distinctness and coverage below follow from
    this one comparison -/
theorem names_perm_registry : (FnId.all.map fun f => f.name).Perm Facts.registry := by decide +kernel

theorem model_names_distinct : (FnId.all.map fun f => f.name).Nodup :=
  names_perm_registry.nodup_iff.2 (by decide +kernel)

theorem model_covers_registry : ∀ n ∈ Facts.registry, (FnId.ofName n).isSome = true := fun n hn => by
  obtain ⟨f, hf, rfl⟩ := List.mem_map.1 (names_perm_registry.mem_iff.2 hn)
  exact List.find?_isSome.2 ⟨f, hf, beq_self_eq_true _⟩

/-- each name is bound to an object of the type that implements it (regenerated: dynamic type per key);
    behaviour of each binding is tied by the correspondence check, which dispatches every call through
    `container.Get(name)` -/
theorem registry_binding : Facts.registryBinding = [
    "ChangeOwnerAddress=*builtInFunctions.changeOwnerAddress", "ClaimDeveloperRewards=*builtInFunctions.claimDeveloperRewards",
    "ESDTBurn=*builtInFunctions.esdtBurn", "ESDTFreeze=*builtInFunctions.esdtFreezeWipe", "ESDTLocalBurn=*builtInFunctions.esdtLocalBurn",
    "ESDTLocalMint=*builtInFunctions.esdtLocalMint", "ESDTNFTAddQuantity=*builtInFunctions.esdtNFTAddQuantity",
    "ESDTNFTAddURI=*builtInFunctions.esdtNFTAddUri", "ESDTNFTBurn=*builtInFunctions.esdtNFTBurn", "ESDTNFTCreate=*builtInFunctions.esdtNFTCreate",
    "ESDTNFTCreateRoleTransfer=*builtInFunctions.esdtNFTCreateRoleTransfer", "ESDTNFTTransfer=*builtInFunctions.esdtNFTTransfer",
    "ESDTNFTUpdateAttributes=*builtInFunctions.esdtNFTupdate", "ESDTPause=*builtInFunctions.esdtPause", "ESDTSetRole=*builtInFunctions.esdtRoles",
    "ESDTTransfer=*builtInFunctions.esdtTransfer", "ESDTUnFreeze=*builtInFunctions.esdtFreezeWipe", "ESDTUnPause=*builtInFunctions.esdtPause",
    "ESDTUnSetRole=*builtInFunctions.esdtRoles", "ESDTWipe=*builtInFunctions.esdtFreezeWipe",
    "MultiESDTNFTTransfer=*builtInFunctions.esdtNFTMultiTransfer", "SaveKeyValue=*builtInFunctions.saveKeyValueStorage",
    "SetUserName=*builtInFunctions.saveUserName"] := rfl

-- non-vacuity / regression and repeat sequences
example : activeAfter 2 [5, 1] = false ∧ activeAfter 2 [1, 5, 5] = true ∧ activeAfter 0 [0] = true ∧
    activeAfter 4294967295 [4294967294, 4294967295] = true := by decide

/-- FULL (binding of the price, regenerated from the factory's source by go/ast on every run): each constructor call in
    the factory passes the `BuiltInCost` entry of the function's own name -/
theorem factory_price_binding : Facts.factoryGasField =
    [("NewClaimDeveloperRewardsFunc", "ClaimDeveloperRewards"),
     ("NewChangeOwnerAddressFunc", "ChangeOwnerAddress"),
     ("NewSaveUserNameFunc", "SaveUserName"),
     ("NewSaveKeyValueStorageFunc", "SaveKeyValue"),
     ("NewESDTTransferFunc", "ESDTTransfer"),
     ("NewESDTBurnFunc", "ESDTBurn"),
     ("NewESDTLocalBurnFunc", "ESDTLocalBurn"),
     ("NewESDTLocalMintFunc", "ESDTLocalMint"),
     ("NewESDTNFTAddQuantityFunc", "ESDTNFTAddQuantity"),
     ("NewESDTNFTBurnFunc", "ESDTNFTBurn"),
     ("NewESDTNFTCreateFunc", "ESDTNFTCreate"),
     ("NewESDTNFTTransferFunc", "ESDTNFTTransfer"),
     ("NewESDTNFTUpdateAttributesFunc", "ESDTNFTUpdateAttributes"),
     ("NewESDTNFTAddUriFunc", "ESDTNFTAddURI"),
     ("NewESDTNFTMultiTransferFunc", "ESDTNFTMultiTransfer")] := rfl

end C18
