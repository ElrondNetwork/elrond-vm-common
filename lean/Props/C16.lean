/-
  Props/C16.lean — C16: every function is priced by its own entry of the current gas schedule.
  The table function ↦ schedule field is a spec literal here.
-/
import Proofs.Charge
import Proofs.Charge2
import Model.World
import Facts.Generated
import Proofs.SkvBound
namespace C16
open Esdt

/-! ### schedule decoding: rejected as a whole, or each field from its own entry -/

/-- field names of the two tables, in declaration order (spec literals, compared with reflection facts) -/
def builtInFields : List String :=
  ["ChangeOwnerAddress", "ClaimDeveloperRewards", "SaveUserName", "SaveKeyValue", "ESDTTransfer", "ESDTBurn",
   "ESDTLocalMint", "ESDTLocalBurn", "ESDTNFTCreate", "ESDTNFTAddQuantity", "ESDTNFTBurn", "ESDTNFTTransfer",
   "ESDTNFTChangeCreateOwner", "ESDTNFTMultiTransfer", "ESDTNFTAddURI", "ESDTNFTUpdateAttributes"]
def baseFields : List String :=
  ["StorePerByte", "ReleasePerByte", "DataCopyPerByte", "PersistPerByte", "CompilePerByte", "AoTPreparePerByte"]

theorem schedule_fields_as_in_code :
    Facts.builtInCostFields = builtInFields.map (· ++ ":uint64") ∧
    Facts.baseOperationCostFields = baseFields.map (· ++ ":uint64") ∧
    Esdt.builtInFieldNames = builtInFields ∧ Esdt.baseFieldNames = baseFields ∧
    Facts.builtInCostString = ascii "BuiltInCost" ∧ Facts.baseOperationCostString = ascii "BaseOperationCost" := by decide +kernel

/-- a schedule with any zero or missing entry (a missing entry decodes to zero) is rejected as a whole … -/
theorem reject_iff (m : GasMap) :
    createGasConfig m = none ↔
      (∃ x ∈ (decodeBase m).fields, x = 0) ∨ (∃ x ∈ (decodeBuiltIn m).fields, x = 0) := by
  unfold createGasConfig
  simp only [List.all_eq_true, decide_eq_true_eq]
  constructor
  · intro h
    split at h
    · simp at h
    · rename_i hn
      by_cases hb : ∀ x ∈ (decodeBase m).fields, x ≠ 0
      · right
        have : ¬ ∀ x ∈ (decodeBuiltIn m).fields, x ≠ 0 := fun hf => hn ⟨hb, hf⟩
        simpa using this
      · left; simpa using hb
  · intro h
    split
    · rename_i hp
      rcases h with ⟨x, hx, h0⟩ | ⟨x, hx, h0⟩
      · exact absurd h0 (hp.1 x hx)
      · exact absurd h0 (hp.2 x hx)
    · rfl

/-- … and leaves the previous prices in force -/
theorem rejected_keeps_previous (cur : GasCost) (m : GasMap) (h : createGasConfig m = none) :
    gasScheduleChange cur m = cur := by simp [gasScheduleChange, h]

/-- an accepted schedule installs, for every entry, the value given under that entry's own name -/
theorem accepted_installs_own_entries (cur : GasCost) (m : GasMap) (g : GasCost) (h : createGasConfig m = some g) :
    gasScheduleChange cur m = g ∧
    BuiltInCost.fields g.fn = builtInFields.map (fun f => u64 (m.lookup ("BuiltInCost." ++ f))) ∧
    BaseCost.fields g.base = baseFields.map (fun f => u64 (m.lookup ("BaseOperationCost." ++ f))) := by
  refine ⟨by simp [gasScheduleChange, h], ?_, ?_⟩
  · unfold createGasConfig at h
    dsimp only at h
    split at h
    · cases h; rfl
    · cases h
  · unfold createGasConfig at h
    dsimp only at h
    split at h
    · cases h; rfl
    · cases h

/-- after any sequence of schedule changes the schedule in force is the last accepted one -/
def inForce (init : GasCost) (changes : List GasMap) : GasCost := changes.foldl gasScheduleChange init

theorem schedule_in_force (init : GasCost) (changes : List GasMap) (m : GasMap) :
    inForce init (changes ++ [m]) =
      match createGasConfig m with
      | some g => g
      | none => inForce init changes := by
  simp only [inForce, List.foldl_append, List.foldl_cons, List.foldl_nil]
  unfold gasScheduleChange
  cases createGasConfig m <;> rfl

theorem in_force_all_rejected (init : GasCost) (changes : List GasMap)
    (h : ∀ m ∈ changes, createGasConfig m = none) : inForce init changes = init := by
  induction changes generalizing init with
  | nil => rfl
  | cons m rest ih =>
    simp only [inForce, List.foldl_cons]
    rw [rejected_keeps_previous init m (h m (by simp))]
    exact ih init (fun x hx => h x (by simp [hx]))

/-! ### exact charge of a successful sender-side execution: own cost + documented per-byte components -/

/-- own schedule entry of each priced function (spec table) -/
def ownCost (g : GasCost) : FnId → Option Nat
  | .changeOwnerAddress => some g.fn.changeOwnerAddress
  | .claimDeveloperRewards => some g.fn.claimDeveloperRewards
  | .setUserName => some g.fn.saveUserName
  | .saveKeyValue => some g.fn.saveKeyValue
  | .esdtTransfer => some g.fn.esdtTransfer
  | .esdtBurn => some g.fn.esdtBurn
  | .localMint => some g.fn.esdtLocalMint
  | .localBurn => some g.fn.esdtLocalBurn
  | .nftCreate => some g.fn.esdtNFTCreate
  | .nftAddQuantity => some g.fn.esdtNFTAddQuantity
  | .nftBurn => some g.fn.esdtNFTBurn
  | .nftTransfer => some g.fn.esdtNFTTransfer
  | .multiTransfer => some g.fn.esdtNFTMultiTransfer
  | .nftAddURI => some g.fn.esdtNFTAddURI
  | .nftUpdateAttributes => some g.fn.esdtNFTUpdateAttributes
  | _ => none          -- freeze / unfreeze / wipe / pause / unpause / set / unset role / hand-over are free

/-- functions whose charge is exactly their own entry -/
theorem charged_own_cost (env : Env) (c : Call) (ctx ctx' : Ctx) (out : VMOutput) (hg : c.gas < 2 ^ 64)
    (hsnd : present env.nshards env.self c.caller = true) :
    (esdtTransfer env c ctx = .ok (out, ctx') → charge c.gas out = env.gas.fn.esdtTransfer) ∧
    (esdtBurn env c ctx = .ok (out, ctx') → charge c.gas out = env.gas.fn.esdtBurn) ∧
    (esdtLocalMint env c ctx = .ok (out, ctx') → charge c.gas out = env.gas.fn.esdtLocalMint) ∧
    (esdtLocalBurn env c ctx = .ok (out, ctx') → charge c.gas out = env.gas.fn.esdtLocalBurn) ∧
    (esdtNFTAddQuantity env c ctx = .ok (out, ctx') → charge c.gas out = env.gas.fn.esdtNFTAddQuantity) ∧
    (esdtNFTBurn env c ctx = .ok (out, ctx') → charge c.gas out = env.gas.fn.esdtNFTBurn) ∧
    (changeOwnerAddress env c ctx = .ok (out, ctx') → charge c.gas out = env.gas.fn.changeOwnerAddress) := by
  have hg' : c.gas < two64 := by simpa [two64] using hg
  exact ⟨(charge_esdtTransfer env c ctx hsnd).elim, (charge_esdtBurn env c ctx hg').elim,
    (charge_esdtLocalMint env c ctx hg').elim, (charge_esdtLocalBurn env c ctx hg').elim,
    (charge_esdtNFTAddQuantity env c ctx hg').elim, (charge_esdtNFTBurn env c ctx hg').elim,
    (charge_changeOwnerAddress env c ctx hsnd).elim⟩

/-- SetUserName is charged where the user account lives (on the sender shard everything is forwarded) -/
theorem charged_setUserName (env : Env) (c : Call) (ctx ctx' : Ctx) (out : VMOutput)
    (hdst : present env.nshards env.self c.rcv = true) (h : setUserName env c ctx = .ok (out, ctx')) :
    charge c.gas out = env.gas.fn.saveUserName := (charge_setUserName env c ctx hdst).elim h

theorem charged_claim (env : Env) (c : Call) (ctx ctx' : Ctx) (out : VMOutput)
    (hsnd : present env.nshards env.self c.caller = true) (hdst : present env.nshards env.self c.rcv = true)
    (hnot : ¬ (c.callType = 1 ∧ isSmartContractAddress c.caller = true))
    (h : claimDeveloperRewards env c ctx = .ok (out, ctx')) :
    charge c.gas out = env.gas.fn.claimDeveloperRewards :=
  (charge_claimDeveloperRewards env c ctx hsnd hdst hnot).elim h

/-- K1 — KNOWN FINDING (KNOWN_FINDINGS.txt, DESIGN §7.4): the case `charged_claim` excludes is a real deviation from the
    property, not a gap of the proof.  Claimed by a smart contract through an asynchronous call, both accounts on the
    executing shard, a successful ClaimDeveloperRewards consumes ALL provided gas: GasRemaining is 0 and the output
    transfer that carried the remaining gas has been dropped with the output accounts.  (Proved of the model; the
    correspondence and the C16 oracle show the same on the real code: replayable with `corpus/K1-claim-async-contract.ops`.) -/
theorem claim_by_contract_async_consumes_all (env : Env) (c : Call) (ctx ctx' : Ctx) (out : VMOutput)
    (hsnd : present env.nshards env.self c.caller = true) (hdst : present env.nshards env.self c.rcv = true)
    (hct : c.callType = 1) (hsc : isSmartContractAddress c.caller = true)
    (h : claimDeveloperRewards env c ctx = .ok (out, ctx')) :
    out.gasRemaining = 0 ∧ out.outAccts = [] ∧ charge c.gas out = c.gas :=
  (charge_claim_async_contract env c ctx hsnd hdst hct hsc).elim h

/-- stored bytes for NFT create: all argument bytes at StorePerByte -/
theorem charged_nftCreate (env : Env) (c : Call) (ctx ctx' : Ctx) (out : VMOutput) (hg : c.gas < 2 ^ 64)
    (hlen : totalLen c.args < 2 ^ 31) (hstore : env.gas.base.storePerByte < 2 ^ 32) (hcost : env.gas.fn.esdtNFTCreate < 2 ^ 32)
    (h : esdtNFTCreate env c ctx = .ok (out, ctx')) :
    charge c.gas out = env.gas.fn.esdtNFTCreate + totalLen c.args * env.gas.base.storePerByte := by
  have h1 : totalLen c.args * env.gas.base.storePerByte < 2 ^ 31 * 2 ^ 32 := Nat.mul_lt_mul'' hlen hstore
  exact (charge_esdtNFTCreate env c ctx (by simpa [two64] using hg) (by unfold two64; omega) (by unfold two64; omega)).elim h

/-- URIs at StorePerByte -/
theorem charged_addURI (env : Env) (c : Call) (ctx ctx' : Ctx) (out : VMOutput) (hg : c.gas < 2 ^ 64)
    (hsum : env.gas.fn.esdtNFTAddURI + totalLen (c.args.drop 2) * env.gas.base.storePerByte < 2 ^ 64)
    (h : esdtNFTAddURI env c ctx = .ok (out, ctx')) :
    charge c.gas out = env.gas.fn.esdtNFTAddURI + totalLen (c.args.drop 2) * env.gas.base.storePerByte :=
  (charge_esdtNFTAddURI env c ctx (by simpa [two64] using hg) (by simpa [two64] using hsum)).elim h

/-- attributes at StorePerByte -/
theorem charged_updateAttributes (env : Env) (c : Call) (ctx ctx' : Ctx) (out : VMOutput) (hg : c.gas < 2 ^ 64)
    (hsum : ∀ a2, c.args[2]? = some a2 →
      env.gas.fn.esdtNFTUpdateAttributes + a2.length * env.gas.base.storePerByte < 2 ^ 64)
    (h : esdtNFTUpdateAttributes env c ctx = .ok (out, ctx')) :
    ∃ a2, c.args[2]? = some a2 ∧
      charge c.gas out = env.gas.fn.esdtNFTUpdateAttributes + a2.length * env.gas.base.storePerByte :=
  (charge_esdtNFTUpdateAttributes env c ctx (by simpa [two64] using hg)
    (by intro a2 ha; have := hsum a2 ha; simpa [two64] using this)).elim h

/-- SaveKeyValue: own cost + PersistPerByte × (key + value) for every pair + StorePerByte × growth of the stored value
    for every pair that changes it (`skvCost`), all priced by the schedule in force -/
theorem charged_saveKeyValue (env : Env) (c : Call) (ctx ctx' : Ctx) (out : VMOutput)
    (hb : env.gas.fn.saveKeyValue + skvCost env c.caller c.args.length ctx.accts c.args < 2 ^ 64)
    (h : saveKeyValue env c ctx = .ok (out, ctx')) :
    charge c.gas out = env.gas.fn.saveKeyValue + skvCost env c.caller c.args.length ctx.accts c.args :=
  (charge_saveKeyValue env c ctx (by simpa [two64] using hb)).elim h

/-- … and under the property's own size assumptions (32-bit schedule entries, fewer than 2^31 argument bytes: C06) the
    "no 64-bit wrap" premise is a theorem, not a hypothesis: `skvCost ≤ (PersistPerByte + StorePerByte) × argument bytes`
    (Proofs/SkvBound.lean) -/
theorem charged_saveKeyValue_sized (env : Env) (c : Call) (ctx ctx' : Ctx) (out : VMOutput)
    (hp : env.gas.base.persistPerByte < 2 ^ 32) (hs : env.gas.base.storePerByte < 2 ^ 32)
    (hf : env.gas.fn.saveKeyValue < 2 ^ 32) (hargs : totalLen c.args < 2 ^ 31)
    (h : saveKeyValue env c ctx = .ok (out, ctx')) :
    charge c.gas out = env.gas.fn.saveKeyValue + skvCost env c.caller c.args.length ctx.accts c.args :=
  (charge_saveKeyValue env c ctx (skv_no_wrap env c ctx.accts hp hs hf hargs)).elim h

/-- the first pair of `skvCost`, spelled out (the definition is the recursion over the pairs) -/
theorem skvCost_pair (env : Env) (a : Bytes) (A : Accts) (k v : Bytes) (rest : List Bytes) (n : Nat) :
    skvCost env a (n + 1) A (k :: v :: rest) =
      (v.length + k.length) * env.gas.base.persistPerByte +
      (if A.read a k = v then skvCost env a n A rest
       else env.gas.base.storePerByte * (v.length - (A.read a k).length) + skvCost env a n (A.write a k v) rest) := rfl

/-- ESDTNFTTransfer, sender side with the destination on another shard: own cost + DataCopyPerByte × length of the NFT
    payload put on the wire (the encoding of the sender's whole entry with `Value := quantity`: C08.cross_shard_hop) -/
theorem charged_nftTransfer_crossShard (env : Env) (c : Call) (ctx ctx' : Ctx) (out : VMOutput)
    (hs : present env.nshards env.self c.caller = true)
    (hx : ∀ d, c.args[3]? = some d → env.self ≠ shardOf env.nshards d)
    (h : esdtNFTTransferSender env c ctx = .ok (out, ctx')) :
    ∃ tok nb qb t, c.args[0]? = some tok ∧ c.args[1]? = some nb ∧ c.args[2]? = some qb ∧
      decToken (ctx.accts.read c.caller (nftKey (esdtKeyPrefix ++ tok) (u64 (beNat nb)))) = some t ∧
      charge c.gas out = env.gas.fn.esdtNFTTransfer +
        u64 ((encToken { t with value := some (beNat qb : Int) }).length * env.gas.base.dataCopyPerByte) :=
  (charge_nftTransferSender_crossShard env c ctx hs hx).elim h

/-- MultiESDTNFTTransfer, sender side (any destination shard): own cost × number of tokens + DataCopyPerByte × encoded
    length of every transferred token that carries metadata (`payloadCost`; what is put on the wire for each: C08.multi_payload) -/
theorem charged_multiTransfer (env : Env) (c : Call) (ctx ctx' : Ctx) (out : VMOutput)
    (hs : present env.nshards env.self c.caller = true)
    (h : multiTransferSender env c ctx = .ok (out, ctx')) :
    ∃ a1 toks, c.args[1]? = some a1 ∧ toks.length = u64 (beNat a1) ∧
      charge c.gas out = u64 (u64 (beNat a1) * env.gas.fn.esdtNFTMultiTransfer) + payloadCost env toks :=
  (charge_multiTransferSender env c ctx hs).elim h

/-- ESDTNFTTransfer, sender side with the destination on the executing shard: own cost + DataCopyPerByte × length of the
    encoding of one token (the entry as merged into the destination, which the code marshals although no message leaves the
    shard: a quirk, but still a whole-schedule charge of the documented shape) -/
theorem charged_nftTransfer_sameShard (env : Env) (c : Call) (ctx ctx' : Ctx) (out : VMOutput)
    (hs : present env.nshards env.self c.caller = true)
    (hx : ∀ d, c.args[3]? = some d → env.self = shardOf env.nshards d)
    (h : esdtNFTTransferSender env c ctx = .ok (out, ctx')) :
    ∃ t' : Token, charge c.gas out = env.gas.fn.esdtNFTTransfer +
      u64 ((encToken t').length * env.gas.base.dataCopyPerByte) :=
  (charge_nftTransferSender_sameShard env c ctx hs hx).elim h

-- `toks` of `charged_multiTransfer` are the tokens returned by the item loop (their wire form: `C08.multi_item` /
-- `multi_payload`); the equation itself does not name them.  All 16 priced functions now have their charge theorem
-- (ESDTNFTChangeCreateOwner is priced in the schedule but charged by no function: `gas_*` of C06 show the hand-over
-- function returns GasRemaining 0 and forwards nothing).

/-- FULL (binding, regenerated from the source by go/ast on every run): every function object's price field is refreshed
    in `SetNewGasConfig` from the `BuiltInCost` entry of its OWN name … -/
theorem setter_bindings : Facts.setterGasField =
    [("changeOwnerAddress.gasCost", "ChangeOwnerAddress"),
     ("claimDeveloperRewards.gasCost", "ClaimDeveloperRewards"),
     ("esdtBurn.funcGasCost", "ESDTBurn"),
     ("esdtLocalBurn.funcGasCost", "ESDTLocalBurn"),
     ("esdtLocalMint.funcGasCost", "ESDTLocalMint"),
     ("esdtNFTAddQuantity.funcGasCost", "ESDTNFTAddQuantity"),
     ("esdtNFTAddUri.funcGasCost", "ESDTNFTAddURI"),
     ("esdtNFTBurn.funcGasCost", "ESDTNFTBurn"),
     ("esdtNFTCreate.funcGasCost", "ESDTNFTCreate"),
     ("esdtNFTTransfer.funcGasCost", "ESDTNFTTransfer"),
     ("esdtTransfer.funcGasCost", "ESDTTransfer"),
     ("saveKeyValueStorage.funcGasCost", "SaveKeyValue"),
     ("esdtNFTMultiTransfer.funcGasCost", "ESDTNFTMultiTransfer"),
     ("saveUserName.gasCost", "SaveUserName"),
     ("esdtNFTupdate.funcGasCost", "ESDTNFTUpdateAttributes")] := rfl

/-- … and the factory constructs every function object with the `BuiltInCost` entry of its own name (so the price is right
    from the first call on, before any schedule change) -/
theorem factory_bindings : Facts.factoryGasField =
    [("NewClaimDeveloperRewardsFunc", "ClaimDeveloperRewards"),
     ("NewChangeOwnerAddressFunc", "ChangeOwnerAddress"),
     ("NewSaveUserNameFunc", "SaveUserName"),
     ("NewSaveKeyValueStorageFunc", "SaveKeyValue"),
     ("NewESDTTransferFunc", "ESDTTransfer"),
     ("NewESDTBurnFunc", "ESDTBurn"),
     ("NewESDTLocalBurnFunc", "ESDTLocalBurn"),
     ("NewESDTLocalMintFunc", "ESDTLocalMint"),
     ("NewESDTNFTAddQuantityFunc", "ESDTNFTAddQuantity"),
     ("NewESDTNFTBurnFunc", "ESDTNFTBurn"),
     ("NewESDTNFTCreateFunc", "ESDTNFTCreate"),
     ("NewESDTNFTTransferFunc", "ESDTNFTTransfer"),
     ("NewESDTNFTUpdateAttributesFunc", "ESDTNFTUpdateAttributes"),
     ("NewESDTNFTAddUriFunc", "ESDTNFTAddURI"),
     ("NewESDTNFTMultiTransferFunc", "ESDTNFTMultiTransfer")] := rfl

-- non-vacuity: a complete map of distinct primes is accepted; dropping one entry rejects it
def sampleMap : GasMap :=
  [("BuiltInCost.ChangeOwnerAddress", 11), ("BuiltInCost.ClaimDeveloperRewards", 13), ("BuiltInCost.SaveUserName", 17),
   ("BuiltInCost.SaveKeyValue", 19), ("BuiltInCost.ESDTTransfer", 23), ("BuiltInCost.ESDTBurn", 29), ("BuiltInCost.ESDTLocalMint", 31),
   ("BuiltInCost.ESDTLocalBurn", 37), ("BuiltInCost.ESDTNFTCreate", 41), ("BuiltInCost.ESDTNFTAddQuantity", 43),
   ("BuiltInCost.ESDTNFTBurn", 47), ("BuiltInCost.ESDTNFTTransfer", 53), ("BuiltInCost.ESDTNFTChangeCreateOwner", 59),
   ("BuiltInCost.ESDTNFTMultiTransfer", 61), ("BuiltInCost.ESDTNFTAddURI", 67), ("BuiltInCost.ESDTNFTUpdateAttributes", 71),
   ("BaseOperationCost.StorePerByte", 2), ("BaseOperationCost.ReleasePerByte", 3), ("BaseOperationCost.DataCopyPerByte", 5),
   ("BaseOperationCost.PersistPerByte", 7), ("BaseOperationCost.CompilePerByte", 73), ("BaseOperationCost.AoTPreparePerByte", 79)]
example : (createGasConfig sampleMap).isSome = true ∧ (createGasConfig (sampleMap.drop 1)).isSome = false ∧
    (createGasConfig (sampleMap ++ [("BuiltInCost.ESDTNFTChangeCreateOwner", 0)])).isSome = false := by decide +kernel

end C16
