/-
  Props/C03.lean — C03: privileged operations require the right authority.
  Role names and the system-contract address are spec literals, checked against the regenerated constants.
-/
import Proofs.Authority
import Proofs.Metadata
import Facts.Generated
import Proofs.PauseFlagOnly
namespace C03
open Esdt

/-- role literals (spec) and their equality with the code's constants and the model's -/
theorem role_literals :
    Facts.roleLocalMint = ascii "ESDTRoleLocalMint" ∧ Facts.roleLocalBurn = ascii "ESDTRoleLocalBurn" ∧
    Facts.roleNFTCreate = ascii "ESDTRoleNFTCreate" ∧ Facts.roleNFTAddQuantity = ascii "ESDTRoleNFTAddQuantity" ∧
    Facts.roleNFTBurn = ascii "ESDTRoleNFTBurn" ∧ Facts.roleNFTAddURI = ascii "ESDTRoleNFTAddURI" ∧
    Facts.roleNFTUpdateAttributes = ascii "ESDTRoleNFTUpdateAttributes" ∧
    Esdt.roleLocalMint = Facts.roleLocalMint ∧ Esdt.roleLocalBurn = Facts.roleLocalBurn ∧
    Esdt.roleNFTCreate = Facts.roleNFTCreate ∧ Esdt.roleNFTAddQuantity = Facts.roleNFTAddQuantity ∧
    Esdt.roleNFTBurn = Facts.roleNFTBurn ∧ Esdt.roleNFTAddURI = Facts.roleNFTAddURI ∧
    Esdt.roleNFTUpdateAttributes = Facts.roleNFTUpdateAttributes ∧ Esdt.esdtSCAddress = Facts.esdtSCAddress := by decide

/-- the role each role-gated function requires (spec table) -/
def requiredRole : FnId → Option Bytes
  | .localMint => some (ascii "ESDTRoleLocalMint")
  | .localBurn => some (ascii "ESDTRoleLocalBurn")
  | .nftCreate => some (ascii "ESDTRoleNFTCreate")
  | .nftAddQuantity => some (ascii "ESDTRoleNFTAddQuantity")
  | .nftBurn => some (ascii "ESDTRoleNFTBurn")
  | .nftAddURI => some (ascii "ESDTRoleNFTAddURI")
  | .nftUpdateAttributes => some (ascii "ESDTRoleNFTUpdateAttributes")
  | _ => none

/-- FULL (role gate): a role-gated operation succeeds only when the calling account currently holds that specific role
    for that specific token (argument 0) — the role list stored under ELRONDroleesdt‖token in the caller's own account
    decodes and contains the literal; holding every other role, or the role for another token, does not help -/
theorem role_gate (f : FnId) (role : Bytes) (hreq : requiredRole f = some role) (env : Env) (c : Call) (ctx ctx' : Ctx)
    (out : VMOutput) (h : exec env f c ctx = .ok (out, ctx')) :
    ∃ tok, c.args[0]? = some tok ∧ HasRole ctx.accts c.caller tok role := by
  unfold exec at h
  cases f <;> simp only [requiredRole] at hreq <;> try cases hreq
  all_goals simp only [runFn] at h
  · obtain ⟨tok, _, _, _, h0, _, hr, _⟩ := (localBurn_spec env c ctx).elim h
    exact ⟨tok, h0, hr⟩
  · obtain ⟨tok, _, _, _, h0, _, hr, _⟩ := (localMint_spec env c ctx).elim h
    exact ⟨tok, h0, hr⟩
  · obtain ⟨tok, _, _, _, _, h0, _, _, _, hr, _⟩ := (addQuantity_spec env c ctx).elim h
    exact ⟨tok, h0, hr⟩
  · obtain ⟨tok, _, _, _, _, h0, _, _, _, hr, _⟩ := (nftBurn_spec env c ctx).elim h
    exact ⟨tok, h0, hr⟩
  · exact (gate_nftCreate env c ctx).elim h
  · obtain ⟨tok, _, _, _, _, h0, _, _, _, hr, _⟩ := (updateAttributes_spec env c ctx).elim h
    exact ⟨tok, h0, hr⟩
  · obtain ⟨tok, _, _, _, h0, _, _, hr, _⟩ := (addURI_spec env c ctx).elim h
    exact ⟨tok, h0, hr⟩

/-- NFT create with quantity > 1 additionally needs the add-quantity role -/
theorem create_quantity_needs_add_role (env : Env) (c : Call) (ctx ctx' : Ctx) (out : VMOutput)
    (h : esdtNFTCreate env c ctx = .ok (out, ctx')) (q : Bytes) (hq : c.args[1]? = some q) (hgt : 1 < beNat q) :
    ∃ tok, c.args[0]? = some tok ∧ HasRole ctx.accts c.caller tok (ascii "ESDTRoleNFTAddQuantity") := by
  obtain ⟨tok, _, _, _, _, _, _, _, h0, h1, _, _, _, _, _, _, _, _, hr, _⟩ := (nftCreate_spec env c ctx).elim h
  cases h1.symm.trans hq
  exact ⟨tok, h0, hr hgt⟩

/-- FULL (system-only): roles, freeze state, wipes and pause state change only through calls whose caller is the ESDT
    system contract address -/
theorem system_only (f : FnId)
    (hf : f = .setRole ∨ f = .unSetRole ∨ f = .esdtFreeze ∨ f = .esdtUnFreeze ∨ f = .esdtWipe ∨ f = .esdtPause ∨ f = .esdtUnPause)
    (env : Env) (c : Call) (ctx ctx' : Ctx) (out : VMOutput) (h : exec env f c ctx = .ok (out, ctx')) :
    c.caller = esdtSCAddress := by
  unfold exec at h
  rcases hf with rfl | rfl | rfl | rfl | rfl | rfl | rfl <;> simp only [runFn] at h
  · exact (sys_esdtRoles true env c ctx).elim h
  · exact (sys_esdtRoles false env c ctx).elim h
  · exact (sys_esdtFreezeWipe .freeze env c ctx).elim h
  · exact (sys_esdtFreezeWipe .unfreeze env c ctx).elim h
  · exact (sys_esdtFreezeWipe .wipe env c ctx).elim h
  · exact (sys_esdtPause true env c ctx).elim h
  · exact (sys_esdtPause false env c ctx).elim h

/-- hand-over of the create role: never when the sender account is local; the step that strips the current holder
    (the one that emits the hand-over message) only for the system contract -/
theorem handover_authority (env : Env) (c : Call) (ctx ctx' : Ctx) (out : VMOutput)
    (h : esdtNFTCreateRoleTransfer env c ctx = .ok (out, ctx')) :
    present env.nshards env.self c.caller = false ∧ present env.nshards env.self c.rcv = true ∧
    (out.outAccts ≠ [] → c.caller = esdtSCAddress) := (handover_guard env c ctx).elim h

/-- a role list can only change through set-role / unset-role / hand-over: every other function leaves every role key
    of every account untouched, whoever calls it -/
theorem roles_change_only_through (f : FnId) (hf : f ≠ .setRole ∧ f ≠ .unSetRole ∧ f ≠ .nftCreateRoleTransfer)
    (env : Env) (c : Call) (ctx ctx' : Ctx) (out : VMOutput) (h : exec env f c ctx = .ok (out, ctx')) (a tok : Bytes) :
    ctx'.accts.read a (roleKeyPrefix ++ tok) = ctx.accts.read a (roleKeyPrefix ++ tok) :=
  roles_only_through f hf env c ctx ctx' out h a tok

/-- ChangeOwnerAddress and ClaimDeveloperRewards take effect (on the shard of the contract) only for the contract's
    current owner; SetUserName only for a configured DNS address.  An attempt by anyone else is an error, hence — with the
    node's rollback — changes no state. -/
theorem owner_only (env : Env) (c : Call) (ctx ctx' : Ctx) (out : VMOutput)
    (hd : present env.nshards env.self c.rcv = true) :
    (changeOwnerAddress env c ctx = .ok (out, ctx') → c.caller = (ctx.accts.get c.rcv).owner) ∧
    (claimDeveloperRewards env c ctx = .ok (out, ctx') → c.caller = (ctx.accts.get c.rcv).owner) :=
  ⟨fun h => (owner_changeOwner env c ctx).elim h hd, fun h => (owner_claim env c ctx).elim h hd⟩

theorem dns_only (env : Env) (c : Call) (ctx ctx' : Ctx) (out : VMOutput)
    (h : setUserName env c ctx = .ok (out, ctx')) : c.caller ∈ env.dns := (dns_setUserName env c ctx).elim h

/-- where the contract does not live (sender shard of a cross-shard call) these three functions change no state at all -/
theorem remote_account_functions_change_nothing (f : FnId)
    (hf : f = .changeOwnerAddress ∨ f = .claimDeveloperRewards ∨ f = .setUserName) (env : Env) (c : Call) (ctx ctx' : Ctx)
    (out : VMOutput) (h : exec env f c ctx = .ok (out, ctx')) (a k : Bytes) :
    ctx'.accts.read a k = ctx.accts.read a k :=
  exec_read_eq h (fun hw => by rcases hf with rfl | rfl | rfl <;> exact hw.1)

/-- FULL (binding, regenerated from the source by go/ast on every run): the role literal each function passes to
    `CheckAllowedToExecute` is the one `role_gate` assigns to it (create checks the create role, then — for quantity > 1 —
    the add-quantity role) -/
theorem role_checks_as_in_code : Facts.roleChecks =
    [("esdtLocalBurn", "ESDTRoleLocalBurn"),
     ("esdtLocalMint", "ESDTRoleLocalMint"),
     ("esdtNFTAddQuantity", "ESDTRoleNFTAddQuantity"),
     ("esdtNFTAddUri", "ESDTRoleNFTAddURI"),
     ("esdtNFTBurn", "ESDTRoleNFTBurn"),
     ("esdtNFTCreate", "ESDTRoleNFTCreate"),
     ("esdtNFTCreate", "ESDTRoleNFTAddQuantity"),
     ("esdtNFTupdate", "ESDTRoleNFTUpdateAttributes")] := by decide

/-- FULL ("global settings change only through the system contract"): the pause flag of every token — and every other
    token-key slot of the system account — is changed by NO function other than ESDTPause / ESDTUnPause (which succeed
    only for the ESDT system contract: `system_only`): all 21 other functions, any caller, any arguments, transfers with
    any number of items, on every state; the one premise is App. C E6 — the system account is the global-settings store
    and is not used as caller, receiver or destination (Proofs/PauseFlagOnly.lean: a preservation calculus through every
    helper that writes, the multi-transfer loops by induction). -/
theorem pause_flag_changes_only_through (f : FnId) (hf : f ≠ .esdtPause ∧ f ≠ .esdtUnPause) (env : Env) (c : Call)
    (A : Accts) (out : VMOutput) (ctx' : Ctx) (hs : SysUntouched c) (h : exec env f c { accts := A } = .ok (out, ctx'))
    (tok : Bytes) :
    ctx'.accts.read systemAccountAddress (esdtKeyPrefix ++ tok) = A.read systemAccountAddress (esdtKeyPrefix ++ tok) ∧
    pausedIn ctx'.accts (esdtKeyPrefix ++ tok) = pausedIn A (esdtKeyPrefix ++ tok) := by
  have hr : ctx'.accts.read systemAccountAddress (esdtKeyPrefix ++ tok) = A.read systemAccountAddress (esdtKeyPrefix ++ tok) :=
    sys_slot_step f hf env c A out ctx' hs ⟨tok, rfl⟩ rfl h
  exact ⟨hr, by unfold pausedIn; rw [hr]⟩

/-- non-vacuity of E6 for an ordinary call -/
example : SysUntouched { fn := fnESDTLocalMint, caller := List.replicate 32 1, rcv := List.replicate 32 1, args := [[70, 84], [9]] } := by
  refine ⟨by decide, by decide, fun a ha => ?_⟩
  simp only [List.mem_cons, List.mem_nil_iff, or_false] at ha
  rcases ha with rfl | rfl <;> decide

end C03
