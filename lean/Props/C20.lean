/-
  Props/C20.lean — C20: shared VM helper types obey their algebraic laws.
  Mask constants and documented addresses are spec literals here; `Facts.*` are regenerated from /repo.
-/
import Model.Helpers
import Proofs.Merge
import Facts.Generated
namespace C20
open Esdt

/-- reading bit `k` of a byte and writing it back is masking with `2^k`: the one fact behind every flag-byte law -/
theorem bit_roundtrip (b m : UInt8) (k : Nat) (hm : m = ⟨.twoPow 8 k⟩) :
    (if b &&& m != 0 then m else 0) = b &&& m := by
  subst hm
  have h : b &&& ⟨.twoPow 8 k⟩ = 0 ∨ b &&& ⟨.twoPow 8 k⟩ = ⟨.twoPow 8 k⟩ := by
    simp only [← UInt8.toBitVec_inj, UInt8.toBitVec_and, BitVec.and_twoPow]
    cases b.toBitVec.getLsbD k <;> simp
  rcases h with h | h <;> rw [h] <;> simp
  exact fun h0 => h0.symm

/-! ### code metadata: documented masks upgradeable = 1, readable = 4 (byte 0), payable = 2 (byte 1) -/

theorem code_masks : Facts.metadataUpgradeable = 1 ∧ Facts.metadataReadable = 4 ∧ Facts.metadataPayable = 2 := by decide

/-- value → bytes → value, for every value -/
theorem codeMetadata_from_to : ∀ (u p r : Bool),
    codeMetadataFromBytes (CodeMetadata.toBytes { payable := p, upgradeable := u, readable := r }) =
      { payable := p, upgradeable := u, readable := r } := by decide

/-- bytes → value → bytes keeps exactly the documented bits, for all 65,536 byte pairs -/
theorem codeMetadata_to_from (b0 b1 : UInt8) :
    (codeMetadataFromBytes [b0, b1]).toBytes = [b0 &&& 5, b1 &&& 2] := by
  show [(if b0 &&& 1 != 0 then 1 else 0) ||| (if b0 &&& 4 != 0 then 4 else 0), if b1 &&& 2 != 0 then 2 else 0] = _
  rw [bit_roundtrip b0 1 0 rfl, bit_roundtrip b0 4 2 rfl, bit_roundtrip b1 2 1 rfl]
  -- 5 = 1 ||| 4
  exact congrArg (· :: _) (UInt8.toBitVec_inj.1 (BitVec.and_or_distrib_left (x := b0.toBitVec) (y := 1) (z := 4)).symm)

/-- inputs of any other length decode to the empty value -/
theorem codeMetadata_other_length (b : Bytes) (h : b.length ≠ 2) : codeMetadataFromBytes b = {} := by
  match b, h with
  | [], _ => rfl
  | [_], _ => rfl
  | _ :: _ :: _ :: _, _ => rfl

/-! ### ESDT freeze / pause flag bytes: documented mask 1 in byte 0 -/

theorem esdt_masks : Facts.metadataFrozen = 1 ∧ Facts.metadataPaused = 1 := by decide

theorem frozen_from_to (f : Bool) : frozenOf (flagBytes f) = f := by cases f <;> decide
theorem paused_from_to (f : Bool) : pausedOf (flagBytes f) = f := by cases f <;> decide

theorem frozen_to_from (b0 b1 : UInt8) : flagBytes (frozenOf [b0, b1]) = [b0 &&& 1, 0] :=
  congrArg (fun x => [x, 0]) (bit_roundtrip b0 1 0 rfl)
theorem paused_to_from (b0 b1 : UInt8) : flagBytes (pausedOf [b0, b1]) = [b0 &&& 1, 0] :=
  congrArg (fun x => [x, 0]) (bit_roundtrip b0 1 0 rfl)

theorem flags_other_length (b : Bytes) (h : b.length ≠ 2) : frozenOf b = false ∧ pausedOf b = false := by
  match b, h with
  | [], _ => exact ⟨rfl, rfl⟩
  | [_], _ => exact ⟨rfl, rfl⟩
  | _ :: _ :: _ :: _, _ => exact ⟨rfl, rfl⟩

/-! ### address classification: total (the model's slicing is `take`/`drop`, guarded like the Go code —
    the correspondence check reports a panic of the real classifiers on any length 0..40) and consistent -/

/-- a metachain contract address is a contract address -/
theorem metachain_sc_is_sc (id a : Bytes) (h : isSmartContractOnMetachain id a = true) :
    isSmartContractAddress a = true := by
  unfold isSmartContractOnMetachain at h
  split at h
  · simp at h
  · split at h
    · simp at h
    · split at h
      · simp at h
      · rename_i hsc; simpa using hsc

/-- documented addresses (spec literals) and their classification -/
def systemAccount : Bytes := List.replicate 32 255
def esdtSystemContract : Bytes := [0,0,0,0,0,0,0,0,0,1,0,0,0,0,0,0,0,0,0,0,0,0,0,0,0,0,0,0,0,2,255,255]

theorem addresses_as_documented :
    Facts.systemAccountAddress = systemAccount ∧ Facts.esdtSCAddress = esdtSystemContract ∧
    Esdt.systemAccountAddress = systemAccount ∧ Esdt.esdtSCAddress = esdtSystemContract := by decide

theorem system_account_classification :
    isSystemAccountAddress systemAccount = true ∧ isSmartContractAddress systemAccount = false ∧
    isSmartContractOnMetachain [255] systemAccount = false ∧ isEmptyAddress systemAccount = false := by decide

theorem esdt_sc_classification :
    isSmartContractAddress esdtSystemContract = true ∧ isSmartContractOnMetachain [255] esdtSystemContract = true ∧
    isSystemAccountAddress esdtSystemContract = false ∧ isMetachainIdentifier [255, 255] = true ∧
    isMetachainIdentifier [] = false := by decide

/-- short inputs are classified, not sliced out of range -/
theorem short_addresses (a : Bytes) (h : a.length ≤ 10) :
    isSmartContractAddress a = false ∧ isSmartContractOnMetachain [255] a = false ∧ isSystemAccountAddress a = false := by
  refine ⟨by simp [isSmartContractAddress, h], ?_, ?_⟩
  · have : a.length ≤ 25 := by omega
    simp [isSmartContractOnMetachain, this]
  · have : a.length < 30 := by omega
    simp [isSystemAccountAddress, this]

/-- the protected-prefix test on keys shorter than the prefix, equal to it, and extending it -/
theorem allowed_key_cases (k : Bytes) :
    (k.length < 6 → isAllowedToSaveUnderKey k = true) ∧
    (isAllowedToSaveUnderKey (protectedPrefix ++ k) = false) := by
  constructor
  · intro h; simp [isAllowedToSaveUnderKey, protectedPrefix, ascii, h]
  · simp [isAllowedToSaveUnderKey, protectedPrefix, ascii]

/-! ### checked subtraction errors exactly on underflow -/

theorem safeSub_error_iff (a b : Nat) : safeSubUint64 a b = none ↔ a < b := by
  unfold safeSubUint64; split <;> simp_all
theorem safeSub_value (a b : Nat) (h : b ≤ a) : safeSubUint64 a b = some (a - b) := by
  unfold safeSubUint64; split <;> simp_all; omega

/-! ### merging output accounts (pointer heap for the big integers) -/

/-- adds balance deltas (nil counts as zero) -/
theorem merge_adds_deltas (h : Heap) (o src : OA) (ha : src.Alloc h) (hsep : o.DeltaSep src) :
    optGet (mergeOA h o src).1 (mergeOA h o src).2.delta = optGet h o.delta + optGet h src.delta :=
  mergeOA_delta_value h o src ha
/-- keeps the highest nonce -/
theorem merge_highest_nonce (h : Heap) (o src : OA) : (mergeOA h o src).2.nonce = max o.nonce src.nonce :=
  mergeOA_nonce h o src
/-- later storage updates win -/
theorem merge_later_storage_wins (h : Heap) (o src : OA) (k : Bytes) :
    storageLookup (mergeOA h o src).2.storage k =
      match storageLookup src.storage k with | some v => some v | none => storageLookup o.storage k := by
  rw [mergeOA_storage]; exact mergeStorage_lookup _ _ k
/-- appends only the new output transfers -/
theorem merge_appends_new_transfers (h : Heap) (o src : OA) :
    (mergeOA h o src).2.transfers = o.transfers ++ src.transfers.drop o.transfers.length :=
  mergeOA_transfers h o src
/-- never mutates the account merged in … -/
theorem merge_src_unchanged (h : Heap) (o src : OA) (ha : src.Alloc h) (hsep : o.DeltaSep src) :
    src.cells (mergeOA h o src).1 = src.cells h := mergeOA_cells h o src src ha hsep
/-- … not even through later merges into the same result -/
theorem merge_src_unchanged_later (srcs : List OA) (h : Heap) (o s : OA) (ha : s.Alloc h) (hsep : o.DeltaSep s) :
    s.cells (mergeSeq h o srcs).1 = s.cells h := mergeSeq_unchanged srcs h o s ha hsep

-- non-vacuity: result with nil delta, merged-in account with its own allocated cells
example : (OA.Alloc { delta := some 0, balance := some 1 } { cells := [(0, 5), (1, 7)], next := 2 }) ∧
    (OA.DeltaSep {} { delta := some 0, balance := some 1 }) := by
  refine ⟨⟨?_, ?_⟩, ?_⟩ <;> simp [OA.DeltaSep]

end C20
