/-
  Props/C02.lean — C02: supply changes only by the stated amount; no overdraft, never negative.
  (Theorems about one call; `Frame`/footprint theorems of C05 give "nothing else changes" for the functions not listed.)
-/
import Proofs.Ledger
import Proofs.Writes
import Proofs.WF
import Proofs.SupplyHistory
import Proofs.Unified
namespace C02
open Esdt

/-- ESDTLocalMint: exactly one storage slot — the caller's entry of the token — is rewritten, with
    `Value := old + amount`; every other slot of every account is untouched -/
theorem localMint_exact (env : Env) (c : Call) (ctx ctx' : Ctx) (out : VMOutput)
    (h : esdtLocalMint env c ctx = .ok (out, ctx')) :
    ∃ tok amt t v, c.args[0]? = some tok ∧ c.args[1]? = some amt ∧
      OneWrite ctx.accts ctx'.accts c.caller (esdtKeyPrefix ++ tok) t v (beNat amt) := by
  obtain ⟨tok, amt, t, v, h0, h1, hw, _⟩ := (localMint_effect env c ctx).elim h
  exact ⟨tok, amt, t, v, h0, h1, hw⟩

/-- ESDTLocalBurn / ESDTBurn: `Value := old − amount`, refused when the amount exceeds the holding (`nonneg`) -/
theorem localBurn_exact (env : Env) (c : Call) (ctx ctx' : Ctx) (out : VMOutput)
    (h : esdtLocalBurn env c ctx = .ok (out, ctx')) :
    ∃ tok amt t v, c.args[0]? = some tok ∧ c.args[1]? = some amt ∧ (beNat amt : Int) ≤ v ∧
      OneWrite ctx.accts ctx'.accts c.caller (esdtKeyPrefix ++ tok) t v (- (beNat amt : Int)) := by
  obtain ⟨tok, amt, t, v, h0, h1, hw, _⟩ := (localBurn_effect env c ctx).elim h
  exact ⟨tok, amt, t, v, h0, h1, by have := hw.nonneg; omega, hw⟩

theorem esdtBurn_exact (env : Env) (c : Call) (ctx ctx' : Ctx) (out : VMOutput)
    (h : esdtBurn env c ctx = .ok (out, ctx')) :
    ∃ tok amt t v, c.args[0]? = some tok ∧ c.args[1]? = some amt ∧ (beNat amt : Int) ≤ v ∧
      OneWrite ctx.accts ctx'.accts c.caller (esdtKeyPrefix ++ tok) t v (- (beNat amt : Int)) := by
  obtain ⟨tok, amt, t, v, h0, h1, hw, _⟩ := (esdtBurn_effect env c ctx).elim h
  exact ⟨tok, amt, t, v, h0, h1, by have := hw.nonneg; omega, hw⟩

/-- the decoded balance of the rewritten slot moves by exactly the amount (through the production codec), and every
    other balance of every account, token and nonce is unchanged -/
theorem oneWrite_balances {A A' : Accts} {a k : Bytes} {t : Token} {v d : Int} (h : OneWrite A A' a k t v d)
    (hok : TokenOK { t with value := some (v + d) }) :
    balOf (A'.read a k) = balOf (A.read a k) + d ∧ 0 ≤ balOf (A'.read a k) ∧
    ∀ a2 k2, ¬ (a = a2 ∧ k = k2) → balOf (A'.read a2 k2) = balOf (A.read a2 k2) := by
  refine ⟨h.balance hok, ?_, fun a2 k2 hne => by rw [h.others a2 k2 hne]⟩
  rw [h.written, Accts.read_write]; simp only [and_self, if_true]
  rw [balOf_storedForm _ (v + d) rfl hok]; exact h.nonneg

/-- ESDTNFTAddQuantity / ESDTNFTBurn: the caller's own entry under token‖nonce, same metadata, value ± amount;
    burn refuses more than the holding -/
theorem addQuantity_exact (env : Env) (c : Call) (ctx ctx' : Ctx) (out : VMOutput)
    (h : esdtNFTAddQuantity env c ctx = .ok (out, ctx')) :
    ∃ tok nb qb t v, c.args[0]? = some tok ∧ c.args[1]? = some nb ∧ c.args[2]? = some qb ∧ u64 (beNat nb) ≠ 0 ∧
      NftWrite ctx.accts ctx'.accts c.caller (esdtKeyPrefix ++ tok) (u64 (beNat nb)) t v (v + beNat qb) := by
  obtain ⟨tok, nb, qb, t, v, h0, h1, h2, hn, hw, _⟩ := (addQuantity_effect env c ctx).elim h
  exact ⟨tok, nb, qb, t, v, h0, h1, h2, hn, hw⟩

theorem nftBurn_exact (env : Env) (c : Call) (ctx ctx' : Ctx) (out : VMOutput)
    (h : esdtNFTBurn env c ctx = .ok (out, ctx')) :
    ∃ tok nb qb t v, c.args[0]? = some tok ∧ c.args[1]? = some nb ∧ c.args[2]? = some qb ∧ u64 (beNat nb) ≠ 0 ∧
      (beNat qb : Int) ≤ v ∧
      NftWrite ctx.accts ctx'.accts c.caller (esdtKeyPrefix ++ tok) (u64 (beNat nb)) t v (v - beNat qb) := by
  obtain ⟨tok, nb, qb, t, v, h0, h1, h2, hn, hle, hw, _⟩ := (nftBurn_effect env c ctx).elim h
  exact ⟨tok, nb, qb, t, v, h0, h1, h2, hn, hle, hw⟩

/-- ESDTWipe removes exactly the fungible entry of the addressed account, and only when it is frozen -/
theorem wipe_exact (env : Env) (c : Call) (ctx ctx' : Ctx) (out : VMOutput)
    (h : esdtFreezeWipe .wipe env c ctx = .ok (out, ctx')) :
    ∃ tok t, c.args[0]? = some tok ∧ c.caller = esdtSCAddress ∧
      tokenOf (ctx.accts.read c.rcv (esdtKeyPrefix ++ tok)) = some t ∧ frozenOf t.properties = true ∧
      ctx'.accts = ctx.accts.write c.rcv (esdtKeyPrefix ++ tok) [] :=
  (wipe_effect env c ctx).elim h

/-- freezing / unfreezing preserves the balance: only the flag bytes of the entry change -/
theorem freeze_preserves_value (kind : FreezeKind) (hk : kind ≠ .wipe) (env : Env) (c : Call) (ctx ctx' : Ctx) (out : VMOutput)
    (h : esdtFreezeWipe kind env c ctx = .ok (out, ctx')) :
    ∃ tok t, c.args[0]? = some tok ∧ tokenOf (ctx.accts.read c.rcv (esdtKeyPrefix ++ tok)) = some t ∧
      ctx'.accts = ctx.accts.write c.rcv (esdtKeyPrefix ++ tok) (storedForm { t with properties := flagBytes (kind == .freeze) }) ∧
      ({ t with properties := flagBytes (kind == .freeze) } : Token).value = t.value := by
  obtain ⟨tok, t, h0, _, ht, _, hw⟩ := (toggleFreeze_effect kind hk env c ctx).elim h
  exact ⟨tok, t, h0, ht, hw, rfl⟩

/-- functions that touch no token balance at all: account-level functions and SaveKeyValue never write a key of the
    token namespace (footprints of C05) -/
theorem account_functions_touch_no_token (f : FnId) (hf : f = .changeOwnerAddress ∨ f = .claimDeveloperRewards ∨ f = .setUserName)
    (env : Env) (c : Call) (ctx ctx' : Ctx) (out : VMOutput) (h : exec env f c ctx = .ok (out, ctx')) (a k : Bytes) :
    ctx'.accts.read a k = ctx.accts.read a k :=
  exec_read_eq h (fun hw => by rcases hf with rfl | rfl | rfl <;> exact hw.1)

theorem saveKeyValue_touches_no_token (env : Env) (c : Call) (ctx ctx' : Ctx) (out : VMOutput)
    (h : saveKeyValue env c ctx = .ok (out, ctx')) (a tok rest : Bytes) :
    ctx'.accts.read a (esdtKeyPrefix ++ tok ++ rest) = ctx.accts.read a (esdtKeyPrefix ++ tok ++ rest) :=
  exec_read_eq (f := .saveKeyValue) h (fun hw => by
    have := wrKey_tok hw.2 (tokKey_esdt_app tok rest); cases this)

/-- ESDTNFTCreate creates exactly the given quantity under the fresh nonce (the nonce itself: C07.create_succ), and the
    only other slot it writes is the nonce counter -/
theorem nftCreate_exact (env : Env) (c : Call) (ctx ctx' : Ctx) (out : VMOutput)
    (h : esdtNFTCreate env c ctx = .ok (out, ctx')) :
    ∃ tok qb n t, c.args[0]? = some tok ∧ c.args[1]? = some qb ∧ out.ret = [beBytes n] ∧ beNat qb ≠ 0 ∧
      t.value = some (beNat qb : Int) ∧
      ctx'.accts = (ctx.accts.write c.caller (nftKey (esdtKeyPrefix ++ tok) n) (nftStoredForm t)).write
        c.caller (nonceKeyPrefix ++ tok) (beBytes n) := by
  obtain ⟨tok, qb, name, roy, hash, attrs, n, A1, h0, h1, _, _, _, _, _, hq, _, hret, hA1, hw⟩ :=
    (nftCreate_effect env c ctx).elim h
  exact ⟨tok, qb, n, createdToken c qb name roy hash attrs n, h0, h1, hret, hq, rfl, by rw [hw, hA1]⟩

/-- FULL (every other function): role, pause and hand-over functions leave every token-keyed slot of every account other
    than the system account (whose token-keyed slots are pause flags, not balances) unchanged — whoever calls them -/
theorem role_pause_handover_leave_balances (f : FnId)
    (hf : f = .setRole ∨ f = .unSetRole ∨ f = .esdtPause ∨ f = .esdtUnPause ∨ f = .nftCreateRoleTransfer)
    (env : Env) (c : Call) (ctx ctx' : Ctx) (out : VMOutput) (h : exec env f c ctx = .ok (out, ctx'))
    (a s : Bytes) (ha : a ≠ systemAccountAddress) :
    ctx'.accts.read a (esdtKeyPrefix ++ s) = ctx.accts.read a (esdtKeyPrefix ++ s) :=
  exec_read_eq h (fun hw => by
    have := wrKey_tok hw.2 ⟨s, rfl⟩
    rcases hf with rfl | rfl | rfl | rfl | rfl <;> first | exact ha hw.1 | cases this)

/-- metadata updates leave the quantity unchanged -/
theorem metadata_updates_keep_value (env : Env) (c : Call) (ctx ctx' : Ctx) (out : VMOutput)
    (h : esdtNFTAddURI env c ctx = .ok (out, ctx') ∨ esdtNFTUpdateAttributes env c ctx = .ok (out, ctx')) :
    ∃ tok nb t m m', c.args[0]? = some tok ∧ c.args[1]? = some nb ∧
      MetaWrite ctx.accts ctx'.accts c.caller (esdtKeyPrefix ++ tok) (u64 (beNat nb)) t m m' := by
  rcases h with h | h
  · obtain ⟨tok, nb, t, m, h0, h1, _, hw⟩ := (addURI_effect env c ctx).elim h
    exact ⟨tok, nb, t, m, _, h0, h1, hw⟩
  · obtain ⟨tok, nb, _, t, m, h0, h1, _, _, hw⟩ := (updateAttributes_effect env c ctx).elim h
    exact ⟨tok, nb, t, m, _, h0, h1, hw⟩

/-- FULL (one call, as ONE sum over all accounts of the shard): for each supply operation — ESDTLocalMint, ESDTLocalBurn,
    ESDTBurn, ESDTNFTCreate, ESDTNFTAddQuantity, ESDTNFTBurn, ESDTWipe — and the toggles ESDTFreeze / ESDTUnFreeze, a
    successful call on a well-formed shard state changes, for EVERY token storage key, the sum of the balances held under
    that key by all accounts of the shard by exactly the stated amount (`supplyDelta`: + the given amount for mint / add
    quantity, − it for the burns, the given quantity under the returned fresh nonce for create, − the frozen account's
    holding for wipe, nothing for the toggles) and by nothing under any other key; the state stays well-formed. -/
theorem supply_changes_by_stated_amount (op : SupplyOp) (env : Env) (c : Call) (A : Accts) (out : VMOutput) (ctx' : Ctx)
    (hI : SInv A) (hcsys : c.caller ≠ systemAccountAddress) (hrsys : c.rcv ≠ systemAccountAddress)
    (hwrap : op = .create → ∀ tok, c.args[0]? = some tok →
      counterOf (A.read c.caller (nonceKeyPrefix ++ tok)) + 1 < two64)
    (h : op.run env c { accts := A } = .ok (out, ctx')) :
    SInv ctx'.accts ∧ ∀ k, TokKey k → balAt ctx'.accts k = balAt A k + supplyDelta op c A out k :=
  supply_step op env c A out ctx' hI hcsys hrsys hwrap h

/-- FULL (operation sequences): along ANY sequence of those operations by anyone with any arguments (failed ones rolled
    back), for every token storage key the shard's sum of balances is the initial sum plus the sum of the stated amounts
    of the successful operations — nothing is created or destroyed on the side; every intermediate state is well-formed
    (so no stored balance is negative: C15.canon_entry_decodes).  Hypotheses on the initial state (`SInv`) and, per
    operation, that neither account is the system account and no create finds its counter at 2^64 − 1. -/
theorem supply_history (steps : List SStep) (A : Accts) (hI : SInv A) (hok : SStepsOK steps A) :
    SInv (srun steps A).1 ∧ ∀ k, TokKey k → balAt (srun steps A).1 k = balAt A k + (srun steps A).2 k :=
  supply_history_run steps A hI hok

/-! non-vacuity: alice holds the mint and burn roles of a fungible token and nothing else; mint 5, burn 2 locally, a mint by
    bob (no role: refused): the shard's sum under the token's key is 3 = 0 + (5 − 2 + 0) -/
def svEnv : Env := { self := 0, nshards := 1, payable := fun _ => .yes, dns := [], nameChange := false, gas := {}, active := true }
def svAlice : Bytes := List.replicate 32 1
def svBob : Bytes := List.replicate 32 2
def svTok : Bytes := [70, 84]
def svA0 : Accts := Accts.write [] svAlice (roleKeyPrefix ++ svTok) (encRoles [roleLocalMint, roleLocalBurn])
def svMint (a : Bytes) (n : UInt8) : SStep :=
  ⟨.mint, svEnv, { fn := fnESDTLocalMint, caller := a, rcv := a, args := [svTok, [n]], gas := 100 }⟩
def svBurn (a : Bytes) (n : UInt8) : SStep :=
  ⟨.localBurn, svEnv, { fn := fnESDTLocalBurn, caller := a, rcv := a, args := [svTok, [n]], gas := 100 }⟩
example : (srun [svMint svAlice 5, svBurn svAlice 2, svMint svBob 9] svA0).2 (esdtKeyPrefix ++ svTok) = 3 ∧
    balAt (srun [svMint svAlice 5, svBurn svAlice 2, svMint svBob 9] svA0).1 (esdtKeyPrefix ++ svTok) = 3 ∧
    balAt svA0 (esdtKeyPrefix ++ svTok) = 0 := by decide +kernel

example : SInv svA0 := by
  have hread : ∀ a k, TokKey k → svA0.read a k = [] := by
    intro a k hk
    unfold svA0
    have hne : ¬ (svAlice = a ∧ roleKeyPrefix ++ svTok = k) := fun h => not_tokKey_role svTok (h.2 ▸ hk)
    rw [Accts.read_write, if_neg hne]
    rfl
  refine ⟨by simp [Accts.Nodup, svA0, Accts.write, Accts.set], fun a k hk _ => Or.inl (hread a k hk), ?_, ?_⟩
  · intro a k
    unfold svA0
    rw [Accts.read_write]
    split
    · decide +kernel
    · show ([] : Bytes).length < two63; decide
  · intro a k t m hk hne _ _
    exact absurd (hread a k hk) hne

/-! ### ONE world, all 23 functions (Proofs/Unified.lean) -/

/-- FULL (per call, the 20 functions that are not transfers, any caller, any arguments): a successful call keeps the shard
    invariant and moves the shard's sum of balances under every token key by `localDelta`: the stated amount for the nine
    supply operations, nothing for claim / change owner / user name / SaveKeyValue / set role / unset role / hand-over /
    add URI / update attributes, and for pause / un-pause minus whatever the system account's own slot was worth (it is
    overwritten by the flag pair: 0 unless tokens had been sent to the system account itself) -/
theorem call_moves_ledger_by_stated_amount (f : FnId) (env : Env) (c : Call) (A : Accts) (out : VMOutput) (ctx' : Ctx)
    (hI : SInv A) (ok : LocalOK env f c A) (h : exec env f c { accts := A } = .ok (out, ctx')) :
    SInv ctx'.accts ∧ ∀ k, TokKey k → balAt ctx'.accts k = balAt A k + localDelta f c A out k :=
  local_step f env c A out ctx' hI ok h

/-- FULL (per step of the mixed world): user transactions, deliveries, refusals and refunds of the three transfer
    functions and calls of the 20 other functions on any shard -/
theorem step_moves_ledger_by_issued_amount (e : Env) (w : UWorld) (st : UStep) (hI : UInv e w) (hok : UStepOK e w st) :
    (∀ k, TokKey k → usupply (ustep e w st) k = usupply w k + issued e w st k) ∧ UInv e (ustep e w st) :=
  ustep_ledger e w st hI hok

/-- FULL (histories; every function, every interleaving, any number of shards): in the world where all 23 functions are
    mixed — messages of the three transfer functions sent, delivered, refused and refunded in any order, and between any
    two such steps calls of the other functions by anybody on any shard — the ledger of every token key (every balance on
    every shard plus everything in flight) is, after the history, what it was plus the stated amounts of the supply
    operations that succeeded.  Hypotheses: the invariant of the INITIAL world and the admissibility of each step
    (`UStepOK`: sender-side transfer forms by ordinary accounts, the system account neither sender nor destination,
    arguments that are Go slices, no counter at 2^64 − 1), nothing about intermediate states. -/
theorem ledger_over_all_histories (e : Env) (steps : List UStep) (w : UWorld) (hI : UInv e w) (hok : UStepsOK e steps w) :
    (∀ k, TokKey k → usupply (urun e steps w).1 k = usupply w k + (urun e steps w).2 k) ∧ UInv e (urun e steps w).1 :=
  unified_history e steps w hI hok

/-! non-vacuity: two shards; Alice (shard 0) mints 5, sends 3 to Bob (shard 1); the system contract gives Bob the burn
    role while the message is in flight; the message is delivered; Bob burns 1: issued 5 − 1, shards hold 2 and 2 -/
def uvEnv : Env := { self := 0, nshards := 2, payable := fun _ => .yes, dns := [], nameChange := false, gas := {}, active := true }
def uvAlice : Bytes := List.replicate 32 2
def uvBob : Bytes := List.replicate 32 1
def uvA0 : Accts := Accts.write [] uvAlice (roleKeyPrefix ++ svTok) (encRoles [roleLocalMint, roleLocalBurn])
def uvW0 : UWorld := { shards := [uvA0, []], ft := [], nft := [], multi := [] }
def uvMint : Call := { fn := fnESDTLocalMint, caller := uvAlice, rcv := uvAlice, args := [svTok, [5]], gas := 100 }
def uvXfer : Call := { fn := fnESDTTransfer, caller := uvAlice, rcv := uvBob, args := [svTok, [3]], gas := 100 }
def uvSetRole : Call := { fn := fnSetESDTRole, caller := esdtSCAddress, rcv := uvBob, args := [svTok, roleLocalBurn], gas := 100 }
def uvBurn : Call := { fn := fnESDTLocalBurn, caller := uvBob, rcv := uvBob, args := [svTok, [1]], gas := 100 }
def uvSteps : List UStep :=
  [.call 0 .localMint uvMint, .ft (.user uvXfer), .call 1 .setRole uvSetRole, .ft (.deliver 0), .call 1 .localBurn uvBurn]

example : (urun uvEnv uvSteps uvW0).2 (esdtKeyPrefix ++ svTok) = 4 ∧
    usupply (urun uvEnv uvSteps uvW0).1 (esdtKeyPrefix ++ svTok) = 4 ∧
    (urun uvEnv uvSteps uvW0).1.shards.map (balAt · (esdtKeyPrefix ++ svTok)) = [2, 2] ∧
    (urun uvEnv uvSteps uvW0).1.ft.length = 0 ∧ usupply uvW0 (esdtKeyPrefix ++ svTok) = 0 := by decide +kernel

theorem sinv_nil : SInv [] :=
  ⟨by simp [Accts.Nodup], (fun _ _ _ _ => Or.inl rfl), fun _ _ => by show ([] : Bytes).length < two63; decide,
   fun _ _ _ _ _ hne _ _ => absurd rfl hne⟩

example : UInv uvEnv uvW0 := by
  have hread : ∀ a k, TokKey k → uvA0.read a k = [] := by
    intro a k hk
    unfold uvA0
    have hne : ¬ (uvAlice = a ∧ roleKeyPrefix ++ svTok = k) := fun h => not_tokKey_role svTok (h.2 ▸ hk)
    rw [Accts.read_write, if_neg hne]
    rfl
  have h0 : SInv uvA0 := by
    refine ⟨by simp [Accts.Nodup, uvA0, Accts.write, Accts.set], fun a k hk _ => Or.inl (hread a k hk), ?_, ?_⟩
    · intro a k
      unfold uvA0
      rw [Accts.read_write]
      split
      · decide +kernel
      · show ([] : Bytes).length < two63; decide
    · intro a k t m hk hne _ _
      exact absurd (hread a k hk) hne
  refine ⟨?_, fun _ h => (by cases h), fun _ h => (by cases h), fun _ h => (by cases h)⟩
  intro A hA
  simp only [uvW0, List.mem_cons, List.mem_nil_iff, or_false] at hA
  rcases hA with rfl | rfl
  · exact h0
  · exact sinv_nil

example : UStepsOK uvEnv uvSteps uvW0 := by
  have short1 : ∀ (x : UInt8), ([x] : Bytes).length < two63 := fun _ => by show 1 < two63; decide
  refine ⟨fun A _ => ⟨rfl, ?_, fun _ => (by decide), fun _ => ⟨by decide, by decide⟩, fun h => (by cases h)⟩,
    ⟨by decide, by decide⟩,
    fun A _ => ⟨rfl, ?_, fun h => (by revert h; decide), fun _ => ⟨by decide, by decide⟩, fun h => (by cases h)⟩,
    trivial,
    fun A _ => ⟨rfl, ?_, fun _ => (by decide), fun _ => ⟨by decide, by decide⟩, fun h => (by cases h)⟩, trivial⟩
  all_goals
    intro a ha
    simp only [uvMint, uvSetRole, uvBurn, List.mem_cons, List.mem_nil_iff, or_false] at ha
    rcases ha with rfl | rfl <;> decide

-- "Never negative" over histories: C15.wf_history (every stored entry decodes to a strictly positive balance or a flagged
-- zero).

end C02
