import Proofs.Accept
import Proofs.Accept2
import Proofs.Accept3
import Proofs.Authority
import Proofs.Base
import Proofs.Charge
import Proofs.Charge2
import Proofs.Codec
import Proofs.Compositional
import Proofs.Emit
import Proofs.Exact
import Proofs.Fault
import Proofs.Frame
import Proofs.Pres
import Proofs.FrozenHistory
import Proofs.Gas
import Proofs.Gated
import Proofs.Gates
import Proofs.Hex
import Proofs.Ledger
import Proofs.Linearizable
import Proofs.Merge
import Proofs.MetaHistory
import Proofs.Metadata
import Proofs.Monad
import Proofs.Network
import Proofs.NetworkMeta
import Proofs.NetworkMulti
import Proofs.NetworkMultiMeta
import Proofs.NetworkNFT
import Proofs.NetworkNonce
import Proofs.NoPanic
import Proofs.NoPanicMulti
import Proofs.Nonce
import Proofs.NonceHistory
import Proofs.Writes
import Proofs.ParserMulti
import Proofs.Parsers
import Proofs.PauseFlagOnly
import Proofs.PausedHistory
import Proofs.RolesNodup
import Proofs.Safe
import Proofs.SetClosed
import Proofs.Shape
import Proofs.Short
import Proofs.Sizes
import Proofs.SkvBound
import Proofs.SkvExact
import Proofs.SupplyHistory
import Proofs.TokFrame
import Proofs.Unified
import Proofs.UnifiedFrozen
import Proofs.UnifiedFrozenMulti
import Proofs.UnifiedMeta
import Proofs.UnifiedPaused
import Proofs.UnifiedPausedMulti
import Proofs.UnifiedPausedNFT
import Proofs.WF
import Proofs.Wire
import Proofs.Wp
